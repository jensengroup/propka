import Propka.Model.ResList
/-! Lemmas for C14: what `splitOn` returns on a text put together from separator-free pieces. -/
namespace Propka.ResList
open Propka.Py

theorem splitOn_cons (sep c : Char) (cs : Str) :
    splitOn sep (c :: cs) = match splitOn sep cs with
      | [] => [[]]
      | p :: ps => if c = sep then [] :: p :: ps else (c :: p) :: ps := by
  rw [splitOn]; rfl

theorem splitOn_ne_nil (sep : Char) (s : Str) : splitOn sep s ≠ [] := by
  induction s with
  | nil => simp [splitOn]
  | cons c cs ih =>
    unfold splitOn
    split
    · simp
    · split <;> simp

theorem splitOn_free (sep : Char) (a : Str) (h : sep ∉ a) : splitOn sep a = [a] := by
  induction a with
  | nil => rfl
  | cons c cs ih =>
    obtain ⟨hc, hcs⟩ := List.ne_and_not_mem_of_not_mem_cons h
    unfold splitOn
    rw [ih hcs]
    simp [hc.symm]

theorem splitOn_append (sep : Char) (a b : Str) (h : sep ∉ a) : splitOn sep (a ++ sep :: b) = a :: splitOn sep b := by
  induction a with
  | nil =>
    show splitOn sep (sep :: b) = [] :: splitOn sep b
    rw [splitOn_cons]
    cases hb : splitOn sep b with
    | nil => exact absurd hb (splitOn_ne_nil sep b)
    | cons p ps => simp
  | cons c cs ih =>
    obtain ⟨hc, hcs⟩ := List.ne_and_not_mem_of_not_mem_cons h
    show splitOn sep (c :: (cs ++ sep :: b)) = (c :: cs) :: splitOn sep b
    rw [splitOn_cons, ih hcs]
    simp [hc.symm]

/-- `split` undoes `join` on pieces that do not contain the separator -/
theorem splitOn_intercalate (sep : Char) (es : List Str) (hne : es ≠ []) (h : ∀ e ∈ es, sep ∉ e) :
    splitOn sep (List.intercalate [sep] es) = es := by
  induction es with
  | nil => exact absurd rfl hne
  | cons e rest ih =>
    obtain ⟨he, hr⟩ := List.forall_mem_cons.mp h
    cases rest with
    | nil => rw [List.intercalate_singleton, splitOn_free sep e he]
    | cons e2 r2 =>
      rw [List.intercalate_cons_cons, List.append_assoc, List.singleton_append, splitOn_append sep e _ he,
        ih (List.cons_ne_nil _ _) hr]

end Propka.ResList
