import Mathlib.Algebra.BigOperators.Group.List.Basic
/-! Two shapes of `List.foldl` that the model's loops have: accumulating a sum, and keeping the first minimum. -/
namespace Propka

/-- A reading `φ` of the state which every step of a fold increases by a reading `ψ` of the element it consumes is, at the
    end, the reading of the start plus the sum of the elements' readings.  Every sum the model accumulates in a loop
    (determinants, records of the conformations, energies) is an instance. -/
theorem foldl_additive {σ β M : Type*} [AddMonoid M] {f : σ → β → σ} (φ : σ → M) (ψ : β → M)
    (h : ∀ s x, φ (f s x) = φ s + ψ x) (l : List β) (s : σ) : φ (l.foldl f s) = φ s + (l.map ψ).sum := by
  induction l generalizing s with
  | nil => simp
  | cons x l ih => rw [List.foldl_cons, ih, h, List.map_cons, List.sum_cons, add_assoc]

/-- A fold that replaces its state by `g b` exactly when the key `w b` of the element is strictly below the key `v` of the
    state, `g b` having the key `w b`, finds a first minimum: the key of the result is below the start's and below every
    element's, and the result is the start or `g` of an element. -/
theorem foldl_min {σ β γ : Type*} [LinearOrder γ] (f : σ → β → σ) (v : σ → γ) (w : β → γ) (g : β → σ)
    (hf : ∀ s b, f s b = if w b < v s then g b else s) (hg : ∀ b, v (g b) = w b) (l : List β) (s : σ) :
    (∀ b ∈ l, v (l.foldl f s) ≤ w b) ∧ v (l.foldl f s) ≤ v s ∧ (l.foldl f s = s ∨ ∃ b ∈ l, l.foldl f s = g b) := by
  induction l generalizing s with
  | nil => simp
  | cons b l ih =>
    obtain ⟨h1, h2, h3⟩ := ih (f s b)
    -- one step: the key does not rise, ends below the element's, and the state is kept or replaced
    have step : v (f s b) ≤ v s ∧ v (f s b) ≤ w b ∧ (f s b = s ∨ f s b = g b) := by
      rw [hf]
      split
      · exact ⟨(hg b).trans_le (le_of_lt ‹_›), (hg b).le, .inr rfl⟩
      · exact ⟨le_rfl, not_lt.mp ‹_›, .inl rfl⟩
    refine ⟨List.forall_mem_cons.mpr ⟨h2.trans step.2.1, h1⟩, h2.trans step.1, ?_⟩
    rcases h3 with h | ⟨c, hc, h⟩
    · rw [List.foldl_cons, h]
      exact step.2.2.imp id fun e => ⟨b, List.mem_cons_self, e⟩
    · exact .inr ⟨c, List.mem_cons_of_mem _ hc, h⟩

end Propka
