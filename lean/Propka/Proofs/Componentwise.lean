import Propka.Model.Iterative
import Mathlib.Algebra.Order.Field.Rat
/-! Helper lemmas for the componentwise behaviour of the iterative scheme (C05): which groups own the
    determinants of a step, the solver as `k` global iterations, and list bookkeeping for restricting
    the interaction list (with its annihilation memory) to a closed sub-system. -/
namespace Propka.Iter

theorem ionDets_owners (minV : ℚ) (g1 g2 : Nat) (q1 q2 : ℚ) (e1 e2 : Bool) (hb coul : ℚ) :
    ∀ d ∈ (ionDets minV g1 g2 q1 q2 e1 e2 hb coul).1, d.owner = g1 ∨ d.owner = g2 := by
  unfold ionDets
  simp only [List.forall_mem_append]
  refine ⟨⟨?_, ?_⟩, ?_⟩ <;> split <;> simp

theorem interStep_owners (minV : ℚ) (gs : Array (IGroup ℚ)) (old : Array ℚ) (it : Inter ℚ) (ann : ℚ × ℚ) :
    ∀ d ∈ (interStep minV gs old it ann).1, d.owner = it.g1 ∨ d.owner = it.g2 := by
  unfold interStep
  -- `split` on these conditions over `ℚ` is several times dearer than a case distinction whose proposition `rw` fills in
  rcases em _ with h | h
  · rw [if_pos h]
    rcases em _ with h | h
    · rw [if_pos h]; simp
    · rw [if_neg h]; simp
  · rw [if_neg h]
    rcases em _ with h | h
    · rw [if_pos h]
      rcases em _ with h | h
      · rw [if_pos h]; simp
      · rw [if_neg h]; simp
    · rw [if_neg h]
      rcases em _ with h | h
      · rw [if_pos h]; exact ionDets_owners _ _ _ _ _ _ _ _ _
      · rw [if_neg h]; nofun

/-- `k` global iterations -/
def iterN (minV : ℚ) (gs : Array (IGroup ℚ)) (inters : List (Inter ℚ)) : Nat → State ℚ → State ℚ
  | 0, s => s
  | k+1, s => iterN minV gs inters k (iterate minV gs inters s)

/-- the solver is some number of global iterations, at least one when it has fuel -/
theorem solveLoop_eq_iterN (minV : ℚ) (gs : Array (IGroup ℚ)) (inters : List (Inter ℚ)) (fuel : Nat) (s : State ℚ) :
    ∃ k, k ≤ fuel ∧ (fuel ≠ 0 → k ≠ 0) ∧ solveLoop minV gs inters fuel s = iterN minV gs inters k s := by
  induction fuel generalizing s with
  | zero => exact ⟨0, Nat.le_refl _, fun h => absurd rfl h, rfl⟩
  | succ n ih =>
    unfold solveLoop
    simp only
    split
    · exact ⟨1, n.succ_pos, fun _ => Nat.one_ne_zero, rfl⟩
    · obtain ⟨k, hk, _, he⟩ := ih (iterate minV gs inters s)
      exact ⟨k+1, Nat.succ_le_succ hk, fun _ => k.succ_ne_zero, by rw [he]; rfl⟩

/-! list bookkeeping for restricting a list of interactions, zipped with their memory, to a part -/
variable {A B C : Type}

theorem zip_map_self (l : List A) (g : A → B) : l.zip (l.map g) = l.map fun a => (a, g a) := by
  simpa using List.zip_map' (f := id) (g := g) (l := l)

/-- restricting the first list to a part `P`, and the second to the entries that sit beside members of that part,
    commutes with zipping the first list to values computed from the pairs -/
theorem filter_zip_map (P : A → Bool) (l : List A) (a : List B) (h : l.length ≤ a.length) (f : A × B → C) :
    (l.filter P).zip (((l.zip a).filter fun p => P p.1).map f) = (l.zip ((l.zip a).map f)).filter fun p => P p.1 := by
  -- a list whose partner is at least as long is the first projection of its zip: the statement becomes one about a list of pairs
  have e := List.map_fst_zip h
  generalize l.zip a = z at e ⊢
  subst e
  simp only [List.filter_map, List.zip_map', Function.comp_def]

theorem filter_flatMap_filter (F : A → Bool) (q : C → Bool) (g : A → List C) (z : List A)
    (h : ∀ p ∈ z, F p = false → ∀ d ∈ g p, q d = false) :
    ((z.filter F).flatMap g).filter q = (z.flatMap g).filter q := by
  induction z with
  | nil => rfl
  | cons p ps ih =>
    have ih := ih fun x hx => h x (List.mem_cons_of_mem _ hx)
    cases hp : F p
    · have hn : (g p).filter q = [] :=
        List.filter_eq_nil_iff.mpr fun d hd => ne_true_of_eq_false (h p List.mem_cons_self hp d hd)
      rw [List.filter_cons_of_neg (ne_true_of_eq_false hp), List.flatMap_cons, List.filter_append, hn, List.nil_append, ih]
    · rw [List.filter_cons_of_pos hp, List.flatMap_cons, List.flatMap_cons, List.filter_append, List.filter_append, ih]

end Propka.Iter
