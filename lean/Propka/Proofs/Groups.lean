import Propka.Model.Groups
/-! Lemmas for C01 / C06 / C12: `mkGroup` is the classifier followed by a set-up that cannot fail (`mkGroup_eq`), so what
    a group made of an atom looks like is read off `setupOf`; the summary rows. -/
namespace Propka.Groups

/-- `Group.setup` + `init_group` once the class is known: the group `mkGroup` makes of an atom of class `cls` -/
def setupOf (T : Tables) (titrateOnly : Option (List (String × Int × String))) (a : AtomInfo) (cls : String) : GroupRec :=
  let type := (lookup T.classType cls).getD ""
  let rt := residueTypeOf cls a
  let charge := match lookup T.ions rt with | some q => q | none => (lookup T.charge type).getD 0
  let model : Option Int := match lookup T.modelPkas rt with
    | none => none
    | some p => some ((lookup T.customPkas (strip a.resName ++ "-" ++ strip a.name)).getD p)
  let listed := match titrateOnly with
    | none => true
    | some l => l.contains (a.chain, a.resNum, a.icode)
  { cls, type, residueType := rt, charge, modelPka := model, titratable := (model.isSome && !a.bridged) && listed,
    excludeCys := !listed && rt == "CYS", bridged := a.bridged, atom := a }

theorem mkGroup_eq (T : Tables) (to : Option (List (String × Int × String))) (a : AtomInfo) :
    mkGroup T to a = (classOf T a).map (setupOf T to a) := by
  unfold mkGroup; cases classOf T a <;> rfl

theorem mkGroup_eq_some {T : Tables} {to : Option (List (String × Int × String))} {a : AtomInfo} {g : GroupRec}
    (h : mkGroup T to a = some g) : ∃ cls, classOf T a = some cls ∧ setupOf T to a cls = g :=
  Option.map_eq_some_iff.mp (mkGroup_eq T to a ▸ h)

theorem count_summaryRows {γ : Type} [DecidableEq γ] (order : List String) (rt : γ → String) (groups : List γ) (g : γ) :
    (summaryRows order rt groups).count g = order.count (rt g) * groups.count g := by
  unfold summaryRows
  induction order with
  | nil => simp
  | cons r rs ih =>
    rw [List.flatMap_cons, List.count_append, ih, List.count_cons, Nat.add_mul, Nat.add_comm]
    congr 1
    -- the groups filed under `r` hold every copy of `g` when `r` is its residue type, and none otherwise
    by_cases h : rt g = r
    · rw [if_pos (beq_iff_eq.mpr h.symm), Nat.one_mul, List.count_filter (p := fun x => rt x == r) (beq_iff_eq.mpr h)]
    · rw [if_neg (fun e => h (beq_iff_eq.mp e).symm), Nat.zero_mul, List.count_eq_zero]
      exact fun hm => h (beq_iff_eq.mp (List.mem_filter.mp hm).2)

theorem summaryRows_map {γ δ : Type} (order : List String) (rt : δ → String) (f : γ → δ) (l : List γ) :
    summaryRows order rt (l.map f) = (summaryRows order (fun x => rt (f x)) l).map f := by
  unfold summaryRows
  simp only [List.map_flatMap, List.filter_map]
  rfl

end Propka.Groups
