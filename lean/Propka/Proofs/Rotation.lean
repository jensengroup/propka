import Propka.Model.Rotation
import Propka.Proofs.RealTrig
/-! The real-number instance of the rotation model (C20).

`rotateAround` turns the axis onto +z by two elementary rotations (`rotZ γ`, then `rotY β`), turns by θ about z and undoes
the two.  On ℝ the guards that skip an alignment are redundant (the skipped angle is 0), so the result is the conjugated
rotation `conj`, which is Rodrigues' rotation about `(−sin β cos γ, sin β sin γ, cos β)` for any γ, β (`conj_eq_rod`); and
because the two alignments do carry the axis `a` to `(0, 0, ‖a‖)` (`aligned`), that vector is `a/‖a‖`. -/
namespace Propka.Rot
open Real

@[simp] theorem nz_real (x : ℝ) : nz x = x := add_zero x

/-- conjugated rotation with abstract cos/sin values -/
def conj (cg sg cb sb ct st : ℝ) (v : V3 ℝ) : V3 ℝ :=
  let w1 : V3 ℝ := ⟨cg*v.x - sg*v.y, sg*v.x + cg*v.y, v.z⟩
  let w2 : V3 ℝ := ⟨cb*w1.x + sb*w1.z, w1.y, -sb*w1.x + cb*w1.z⟩
  let w3 : V3 ℝ := ⟨ct*w2.x - st*w2.y, st*w2.x + ct*w2.y, w2.z⟩
  let w4 : V3 ℝ := ⟨cb*w3.x - sb*w3.z, w3.y, sb*w3.x + cb*w3.z⟩
  ⟨cg*w4.x + sg*w4.y, -sg*w4.x + cg*w4.y, w4.z⟩

/-- Rodrigues rotation about a unit vector k, with `ct = cos θ`, `st = sin θ`:
    `v cos θ + (k × v) sin θ + k (k·v)(1 − cos θ)` -/
def rodK (ct st : ℝ) (k v : V3 ℝ) : V3 ℝ :=
  let d := k.x*v.x + k.y*v.y + k.z*v.z
  ⟨v.x*ct + (k.y*v.z - k.z*v.y)*st + k.x*d*(1-ct),
   v.y*ct + (k.z*v.x - k.x*v.z)*st + k.y*d*(1-ct),
   v.z*ct + (k.x*v.y - k.y*v.x)*st + k.z*d*(1-ct)⟩

theorem conj_eq_rod (cg sg cb sb ct st : ℝ) (v : V3 ℝ)
    (hg : cg^2 + sg^2 = 1) (hb : cb^2 + sb^2 = 1) :
    conj cg sg cb sb ct st v = rodK ct st ⟨-sb*cg, sb*sg, cb⟩ v := by
  obtain ⟨vx, vy, vz⟩ := v
  simp only [conj, rodK, V3.mk.injEq]
  -- each component differs from the target by a combination of the two circle equations; the multipliers were computed once,
  -- by polynomial division in a computer algebra system
  refine ⟨?_, ?_, ?_⟩
  · linear_combination (cb^2*ct*vx - cb*st*vy + ct*sb^2*vx) * hg + (-ct*(cg*sg*vy + sg^2*vx - vx)) * hb
  · linear_combination (cb*st*vx + ct*vy) * hg + (-ct*sg*(cg*vx - sg*vy)) * hb
  · linear_combination (ct*vz) * hb

theorem rotZ_zero (v : V3 ℝ) : rotZ 0 v = v := by simp [rotZ, Trig.cos, Trig.sin]
theorem rotY_zero (v : V3 ℝ) : rotY 0 v = v := by simp [rotY, Trig.cos, Trig.sin]

theorem rotZ_neg_rotZ (t : ℝ) (v : V3 ℝ) : rotZ (-t) (rotZ t v) = v := by
  obtain ⟨x, y, z⟩ := v
  simp only [rotZ, Trig.cos, Trig.sin, cos_neg, sin_neg, V3.mk.injEq]
  exact ⟨by linear_combination x * cos_sq_add_sin_sq t, by linear_combination y * cos_sq_add_sin_sq t, trivial⟩

theorem rotY_neg_rotY (t : ℝ) (v : V3 ℝ) : rotY (-t) (rotY t v) = v := by
  obtain ⟨x, y, z⟩ := v
  simp only [rotY, Trig.cos, Trig.sin, cos_neg, sin_neg, V3.mk.injEq]
  exact ⟨by linear_combination x * cos_sq_add_sin_sq t, trivial, by linear_combination z * cos_sq_add_sin_sq t⟩

theorem conj_cos_sin (γ β θ : ℝ) (v : V3 ℝ) :
    conj (cos γ) (sin γ) (cos β) (sin β) (cos θ) (sin θ) v = rotZ (-γ) (rotY (-β) (rotZ θ (rotY β (rotZ γ v)))) := by
  simp only [rotZ, rotY, conj, Trig.sin, Trig.cos, cos_neg, sin_neg, neg_neg, neg_mul, ← sub_eq_add_neg]

/-- `z/ρ` with `ρ = √(u² + z²)`, `u ≠ 0`, is a cosine whose sine is `|u|/ρ` (and the same with sine and cosine exchanged) -/
theorem ratio_hypot (u z : ℝ) (hu : u ≠ 0) :
    -1 ≤ z / √(u*u + z*z) ∧ z / √(u*u + z*z) ≤ 1 ∧ √(1 - (z / √(u*u + z*z))^2) = |u| / √(u*u + z*z) := by
  have h2 : 0 < u*u + z*z := add_pos_of_pos_of_nonneg (mul_self_pos.mpr hu) (mul_self_nonneg z)
  -- `(|u|/ρ, z/ρ)` is a point of the unit circle
  have hs : (|u| / √(u*u + z*z))^2 + (z / √(u*u + z*z))^2 = 1 := by
    rw [div_pow, div_pow, sq_abs, sq_sqrt h2.le, ← add_div, sq, sq, div_self h2.ne']
  have hb := abs_le.mp ((sq_le_one_iff_abs_le_one (z / √(u*u + z*z))).mp ((le_add_of_nonneg_left (sq_nonneg _)).trans_eq hs))
  exact ⟨hb.1, hb.2, by rw [← hs, add_sub_cancel_right, sqrt_sq (by positivity)]⟩

theorem neg_div_abs {u : ℝ} (hu : u ≠ 0) : -u / |u| = 1 ∨ -u / |u| = -1 := by
  rcases lt_or_gt_of_ne hu with h | h
  · left; rw [abs_of_neg h, div_self (neg_ne_zero.mpr hu)]
  · right; rw [abs_of_pos h, neg_div, div_self hu]

theorem cos_sin_sign_mul {σ : ℝ} (hσ : σ = 1 ∨ σ = -1) (t : ℝ) : cos (σ * t) = cos t ∧ sin (σ * t) = σ * sin t := by
  rcases hσ with rfl | rfl <;> simp

theorem beta_vals (u z : ℝ) (hu : u ≠ 0) :
    let ρ := Real.sqrt (u*u + z*z)
    let b := -u / |u| * Real.arccos (z / ρ)
    Real.cos b = z / ρ ∧ Real.sin b = -u / ρ := by
  intro ρ b
  obtain ⟨h1, h2, hs⟩ := ratio_hypot u z hu
  obtain ⟨hc, hsn⟩ := cos_sin_sign_mul (neg_div_abs hu) (arccos (z / ρ))
  exact ⟨by rw [hc, cos_arccos h1 h2], by rw [hsn, sin_arccos, hs, div_mul_div_cancel₀ (abs_ne_zero.mpr hu)]⟩

theorem gamma_vals (x y : ℝ) (hx : x ≠ 0) :
    let r := Real.sqrt (x*x + y*y)
    let g := -x / |x| * Real.arcsin (y / r)
    Real.cos g = |x| / r ∧ Real.sin g = -(x/|x|) * (y / r) := by
  intro r g
  obtain ⟨h1, h2, hs⟩ := ratio_hypot x y hx
  obtain ⟨hc, hsn⟩ := cos_sin_sign_mul (neg_div_abs hx) (arcsin (y / r))
  exact ⟨by rw [hc, cos_arcsin, hs], by rw [hsn, sin_arcsin h1 h2, neg_div]⟩

noncomputable def nrm (a : V3 ℝ) : ℝ := Real.sqrt (a.x*a.x + a.y*a.y + a.z*a.z)

noncomputable def unit (a : V3 ℝ) : V3 ℝ := ⟨a.x / nrm a, a.y / nrm a, a.z / nrm a⟩

theorem sumsq_pos {x y z : ℝ} (h : x ≠ 0 ∨ y ≠ 0 ∨ z ≠ 0) : 0 < x*x + y*y + z*z := by
  rcases h with h | h | h <;> linarith [mul_self_pos.mpr h, mul_self_nonneg x, mul_self_nonneg y, mul_self_nonneg z]

theorem nrm_pos (a : V3 ℝ) (ha : a.x ≠ 0 ∨ a.y ≠ 0 ∨ a.z ≠ 0) : 0 < nrm a := sqrt_pos.mpr (sumsq_pos ha)

theorem rotZ_gammaOf_y (a : V3 ℝ) : (rotZ (gammaOf a) a).y = 0 := by
  obtain ⟨x, y, z⟩ := a
  unfold gammaOf
  simp only [nz_real, rotZ, Trig.sin, Trig.cos, Trig.asin, Trig.sqrt, Trig.abs, Trig.pi]
  split_ifs with hy hx
  · obtain ⟨hc, hs⟩ := gamma_vals x y hx
    have hxx : x / |x| * x = |x| := by rw [div_mul_eq_mul_div, ← abs_mul_abs_self x, mul_self_div_self]
    rw [hc, hs]
    linear_combination (-(y / √(x*x + y*y))) * hxx
  · simp [not_not.mp hx]
  · simp [not_not.mp hy]

theorem rotY_betaOf (b : V3 ℝ) : rotY (betaOf b) b = ⟨0, b.y, √(b.x*b.x + b.z*b.z)⟩ := by
  obtain ⟨u, y, z⟩ := b
  unfold betaOf
  simp only [nz_real, rotY, Trig.sin, Trig.cos, Trig.acos, Trig.sqrt, Trig.abs, Trig.pi, V3.mk.injEq, true_and]
  split_ifs with hu hz
  · obtain ⟨hc, hs⟩ := beta_vals u z hu
    rw [hc, hs]
    exact ⟨by ring, (by ring : _ = (u*u + z*z) / √(u*u + z*z)).trans div_sqrt⟩
  · rw [not_not.mp hu]; simp [sqrt_mul_self_eq_abs, abs_of_neg hz]
  · rw [not_not.mp hu]; simp [sqrt_mul_self_eq_abs, abs_of_nonneg (not_lt.mp hz)]

theorem nrm_rotZ (t : ℝ) (a : V3 ℝ) : nrm (rotZ t a) = nrm a := by
  unfold nrm; congr 1
  simp only [rotZ, Trig.cos, Trig.sin]
  linear_combination (a.x*a.x + a.y*a.y) * cos_sq_add_sin_sq t

theorem aligned (a : V3 ℝ) : rotY (betaOf (rotZ (gammaOf a) a)) (rotZ (gammaOf a) a) = ⟨0, 0, nrm a⟩ := by
  have hy := rotZ_gammaOf_y a
  rw [rotY_betaOf, hy, ← nrm_rotZ (gammaOf a) a, nrm, hy, mul_zero, add_zero]

/-- On ℝ the guards of `rotateAround` are redundant: an alignment is skipped only when its angle is 0. -/
theorem rotateAround_eq (θ : ℝ) (a v : V3 ℝ) :
    rotateAround θ a v = rotZ (-gammaOf a) (rotY (-betaOf (rotZ (gammaOf a) a)) (rotZ θ
      (rotY (betaOf (rotZ (gammaOf a) a)) (rotZ (gammaOf a) v)))) := by
  have hγ : ∀ w, (if nz a.y ≠ 0 then rotZ (gammaOf a) w else w) = rotZ (gammaOf a) w :=
    fun w => ite_eq_left_iff.mpr fun h => by rw [gammaOf, if_neg h, rotZ_zero]
  have hβ : ∀ b w : V3 ℝ, (if nz b.x ≠ 0 then rotY (betaOf b) w else if b.z < 0 then rotY (betaOf b) w else w) = rotY (betaOf b) w :=
    fun b w => ite_eq_left_iff.mpr fun h1 => ite_eq_left_iff.mpr fun h2 => by rw [betaOf, if_neg h1, if_neg h2, rotY_zero]
  unfold rotateAround
  simp only [hγ, hβ]

/-- an axis that `rotZ γ` and then `rotY β` carry to `(0, 0, n)` is `n (−sin β cos γ, sin β sin γ, cos β)`: undo the two -/
theorem axis_of_aligned (γ β n : ℝ) (a : V3 ℝ) (hn : n ≠ 0) (h : rotY β (rotZ γ a) = ⟨0, 0, n⟩) :
    (⟨-sin β * cos γ, sin β * sin γ, cos β⟩ : V3 ℝ) = ⟨a.x / n, a.y / n, a.z / n⟩ := by
  have h' := congrArg (fun w => rotZ (-γ) (rotY (-β) w)) h
  simp only [rotY_neg_rotY, rotZ_neg_rotZ] at h'
  rw [h']
  simp only [rotZ, rotY, Trig.cos, Trig.sin, cos_neg, sin_neg, V3.mk.injEq]
  exact ⟨eq_div_of_mul_eq hn (by ring), eq_div_of_mul_eq hn (by ring), eq_div_of_mul_eq hn (by ring)⟩

theorem rotate_eq_rodK (θ : ℝ) (a v : V3 ℝ) (hn : nrm a ≠ 0) :
    rotateAround θ a v = rodK (Real.cos θ) (Real.sin θ) (unit a) v := by
  rw [rotateAround_eq, ← conj_cos_sin, conj_eq_rod _ _ _ _ _ _ v (cos_sq_add_sin_sq _) (cos_sq_add_sin_sq _)]
  exact congrArg (rodK _ _ · v) (axis_of_aligned _ _ _ a hn (aligned a))

/-- the instance for an axis off the yz-plane -/
theorem rotate_caseA (θ : ℝ) (a v : V3 ℝ) (hy : a.y ≠ 0) (hx : a.x ≠ 0) :
    rotateAround θ a v = rodK (Real.cos θ) (Real.sin θ) (unit a) v :=
  rotate_eq_rodK θ a v (nrm_pos a (.inl hx)).ne'

end Propka.Rot
