import Propka.Model.Angle
import Propka.Proofs.RealTrig
/-! The angle factor over ℝ in closed form (C04: it is a function of inner products; C16: it is a cosine). -/
namespace Propka.Scoring
open Propka.Angle Real

/-- inner product of the difference vectors a-b and c-d -/
def dot4 (a b c d : P3 ℝ) : ℝ := (a.x - b.x) * (c.x - d.x) + (a.y - b.y) * (c.y - d.y) + (a.z - b.z) * (c.z - d.z)

theorem factors_eq_dot4 (p1 p2 p3 : P3 ℝ) :
    factors p1 p2 p3 = (Real.sqrt (dot4 p1 p2 p1 p2), dot4 p1 p2 p2 p3 / (Real.sqrt (dot4 p1 p2 p1 p2) * Real.sqrt (dot4 p2 p3 p2 p3)),
      Real.sqrt (dot4 p2 p3 p2 p3)) := by
  unfold factors dot4
  simp only [Trig.sqrt]
  refine Prod.ext rfl (Prod.ext ?_ rfl)
  simp only
  rw [div_mul_div_comm, div_mul_div_comm, div_mul_div_comm, ← add_div, ← add_div]

/-- Cauchy-Schwarz, from Lagrange's identity `(a·a)(b·b) − (a·b)² = |a × b|²` -/
theorem abs_dot_le (a1 a2 a3 b1 b2 b3 : ℝ) :
    |a1*b1 + a2*b2 + a3*b3| ≤ √(a1*a1 + a2*a2 + a3*a3) * √(b1*b1 + b2*b2 + b3*b3) := by
  rw [← sqrt_mul (add_nonneg (add_nonneg (mul_self_nonneg _) (mul_self_nonneg _)) (mul_self_nonneg _))]
  refine abs_le_sqrt (sub_nonneg.mp ?_)
  rw [show (a1*a1 + a2*a2 + a3*a3) * (b1*b1 + b2*b2 + b3*b3) - (a1*b1 + a2*b2 + a3*b3)^2
      = (a1*b2 - a2*b1)^2 + (a1*b3 - a3*b1)^2 + (a2*b3 - a3*b2)^2 by ring]
  positivity

end Propka.Scoring
