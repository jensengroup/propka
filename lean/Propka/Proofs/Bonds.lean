import Propka.Model.Bonds
import Propka.Proofs.Basics
import Mathlib.Tactic.Linarith
import Mathlib.Tactic.Ring
/-! The cell list of `find_bonds_for_atoms_using_boxes` (C11; the bonding phase of the set-up pipeline refines it).  `visited`
    walks the entries of the box dictionary and reads the neighbour boxes through `lookupBox`, which stops at the first entry of a
    key; so two facts go through the loop that builds the dictionary: what every entry holds (`box_entries`) and what a look-up
    finds (`lookup_buildBoxes`).  That the keys are distinct, which would make either follow from the other, is not needed.
    Together they give the call sequence exactly (`mem_visited`). -/
namespace Propka.Bonds

theorem bonded_step (crit : Nat → Nat → Bool) (hsym : ∀ a b, crit a b = crit b a)
    (s : List (Nat × Nat)) (p : Nat × Nat) (a b : Nat) :
    bondedIn (tryBond crit s p) a b ↔
      bondedIn s a b ∨ (((a, b) = p ∨ (b, a) = p) ∧ crit a b = true) := by
  -- if `{a, b}` is the pair `p`, being bonded and meeting the criterion mean the same for `(a, b)` and for `p`
  have key : ((a, b) = p ∨ (b, a) = p) → (bondedIn s a b ↔ bondedIn s p.1 p.2) ∧ crit a b = crit p.1 p.2 := by
    rintro (rfl | rfl)
    · exact ⟨Iff.rfl, rfl⟩
    · exact ⟨Or.comm, hsym _ _⟩
  unfold tryBond
  split
  · exact ⟨Or.inl, fun h => h.elim id fun h => (key h.1).1.mpr ‹_›⟩
  · split
    · -- the pair is appended: the criterion holds of it, and the four disjuncts (old or new, in either order) are regrouped
      rw [and_iff_left_of_imp fun h => (key h).2.trans ‹_›, ← or_or_or_comm]
      simp only [bondedIn, List.mem_append, List.mem_singleton]
    · exact ⟨Or.inl, fun h => h.elim id fun h => absurd ((key h.1).2.symm.trans h.2) ‹_›⟩

theorem bonded_fold (crit : Nat → Nat → Bool) (hsym : ∀ a b, crit a b = crit b a)
    (ps : List (Nat × Nat)) (s : List (Nat × Nat)) (a b : Nat) :
    bondedIn (ps.foldl (tryBond crit) s) a b ↔
      bondedIn s a b ∨ (((a, b) ∈ ps ∨ (b, a) ∈ ps) ∧ crit a b = true) := by
  induction ps generalizing s with
  | nil => simp
  | cons p ps ih =>
    -- "bonded before, or `p` meets the criterion, or a later pair does": the last two are merged into membership in `p :: ps`
    rw [List.foldl_cons, ih, bonded_step crit hsym, or_assoc, ← or_and_right, or_or_or_comm]
    simp only [List.mem_cons]

theorem mem_fold (crit : Nat → Nat → Bool) (ps : List (Nat × Nat)) :
    ∀ q ∈ ps.foldl (tryBond crit) [], q ∈ ps ∧ crit q.1 q.2 = true := by
  refine List.foldlRecOn (motive := fun s => ∀ q ∈ s, q ∈ ps ∧ crit q.1 q.2 = true) ps _
    (fun _ h => absurd h List.not_mem_nil) fun s hs p hp => ?_
  unfold tryBond
  split
  · exact hs
  · split
    · exact List.forall_mem_append.mpr ⟨hs, List.forall_mem_singleton.mpr ⟨hp, ‹_›⟩⟩
    · exact hs

theorem lookup_insert (bs : BoxMap) (c c' : Cell) (i : Nat) :
    lookupBox (insertBox bs c i) c' =
      if c' = c then some ((lookupBox bs c).getD [] ++ [i]) else lookupBox bs c' := by
  induction bs with
  | nil => simp only [insertBox, lookupBox, eq_comm (a := c), Option.getD_none, List.nil_append]
  | cons kv rest ih =>
    obtain ⟨k, v⟩ := kv
    simp only [insertBox, lookupBox]
    by_cases hk : k = c
    · subst hk
      by_cases hc : c' = k
      · subst hc; simp only [if_true, lookupBox, Option.getD_some]
      · simp only [if_true, lookupBox, hc, Ne.symm hc, if_false]
    · simp only [hk, if_false, lookupBox, ih]
      by_cases hc : k = c'
      · subst hc; simp only [if_true, hk, if_false]
      · simp only [hc, if_false]

theorem forall_insertBox {Q : Cell → List Nat → Prop} {bs : BoxMap} {c : Cell} {i : Nat}
    (h : ∀ kv ∈ bs, Q kv.1 kv.2) (hnew : ∀ w, (w = [] ∨ (c, w) ∈ bs) → Q c (w ++ [i])) :
    ∀ kv ∈ insertBox bs c i, Q kv.1 kv.2 := by
  induction bs with
  | nil => simpa [insertBox] using hnew [] (Or.inl rfl)
  | cons kv rest ih =>
    obtain ⟨k, v⟩ := kv
    simp only [insertBox]
    split
    · rename_i hk; subst hk
      simp only [List.forall_mem_cons] at h ⊢
      exact ⟨hnew v (Or.inr List.mem_cons_self), h.2⟩
    · simp only [List.forall_mem_cons] at h ⊢
      exact ⟨h.1, ih h.2 fun w hw => hnew w (hw.imp_right (List.mem_cons_of_mem _))⟩

theorem mem_of_lookup {bs : BoxMap} {c : Cell} {v : List Nat} (h : lookupBox bs c = some v) : (c, v) ∈ bs := by
  induction bs with
  | nil => simp [lookupBox] at h
  | cons kv rest ih =>
    obtain ⟨k, w⟩ := kv
    simp only [lookupBox] at h
    by_cases hk : k = c
    · simp [hk] at h; subst hk; subst h; simp
    · simp [hk] at h; exact List.mem_cons_of_mem _ (ih h)

theorem buildBoxes_succ (cell : Nat → Cell) (n : Nat) :
    buildBoxes cell (n+1) = insertBox (buildBoxes cell n) (cell n) n := by
  simp [buildBoxes, List.range_succ, List.foldl_append]

theorem box_entries (cell : Nat → Cell) (n : Nat) :
    ∀ kv ∈ buildBoxes cell n, kv.2.Pairwise (· < ·) ∧ ∀ i ∈ kv.2, i < n ∧ cell i = kv.1 := by
  induction n with
  | zero => simp [buildBoxes]
  | succ n ih =>
    rw [buildBoxes_succ]
    refine forall_insertBox (Q := fun k v => v.Pairwise (· < ·) ∧ ∀ i ∈ v, i < n + 1 ∧ cell i = k)
      (fun kv hkv => ⟨(ih kv hkv).1, fun i hi => ((ih kv hkv).2 i hi).imp_left Nat.lt_succ_of_lt⟩) fun w hw => ?_
    have hw' : w.Pairwise (· < ·) ∧ ∀ i ∈ w, i < n ∧ cell i = cell n := by
      rcases hw with rfl | hw
      · simp
      · exact ih _ hw
    refine ⟨List.pairwise_append.mpr ⟨hw'.1, by simp, fun a ha b hb => ?_⟩,
      List.forall_mem_append.mpr ⟨fun i hi => (hw'.2 i hi).imp_left Nat.lt_succ_of_lt,
        List.forall_mem_singleton.mpr ⟨n.lt_succ_self, rfl⟩⟩⟩
    rw [List.mem_singleton.mp hb]; exact (hw'.2 a ha).1

theorem lookup_buildBoxes (cell : Nat → Cell) (n : Nat) (c : Cell) :
    lookupBox (buildBoxes cell n) c =
      if (List.range n).filter (fun i => cell i = c) = [] then none else some ((List.range n).filter (fun i => cell i = c)) := by
  induction n with
  | zero => rfl
  | succ n ih =>
    rw [buildBoxes_succ, lookup_insert, ih, List.range_succ, List.filter_append]
    by_cases hc : c = cell n
    · subst hc; by_cases h : List.filter (fun i => decide (cell i = cell n)) (List.range n) = [] <;> simp [h, ih]
    · simp [hc, Ne.symm hc]

/-- `lookup_buildBoxes` read as membership -/
theorem lookup_build (cell : Nat → Cell) (n : Nat) (c : Cell) :
    (∀ v, lookupBox (buildBoxes cell n) c = some v → ∀ i, i ∈ v ↔ (i < n ∧ cell i = c)) ∧
    (lookupBox (buildBoxes cell n) c = none → ∀ i, i < n → cell i ≠ c) := by
  rw [lookup_buildBoxes]
  split
  · rename_i h
    exact ⟨nofun, fun _ i hi => by simpa using List.filter_eq_nil_iff.mp h i (List.mem_range.mpr hi)⟩
  · exact ⟨fun v hv i => by cases hv; simp, nofun⟩

theorem lookup_cell (cell : Nat → Cell) (n i : Nat) (hi : i < n) :
    ∃ v, lookupBox (buildBoxes cell n) (cell i) = some v ∧ i ∈ v := by
  cases h : lookupBox (buildBoxes cell n) (cell i) with
  | none => exact absurd rfl ((lookup_build cell n (cell i)).2 h i hi)
  | some v => exact ⟨v, rfl, ((lookup_build cell n (cell i)).1 v h i).2 ⟨hi, rfl⟩⟩

theorem mem_pairsWithin {v : List Nat} (hv : v.Pairwise (· < ·)) (a b : Nat) :
    (a, b) ∈ pairsWithin v ↔ a ∈ v ∧ b ∈ v ∧ a < b := by
  induction v with
  | nil => simp [pairsWithin]
  | cons x rest ih =>
    rw [List.pairwise_cons] at hv
    simp only [pairsWithin, List.mem_append, List.mem_map, Prod.mk.injEq, ih hv.2, List.mem_cons]
    constructor
    · rintro (⟨y, hy, rfl, rfl⟩ | ⟨ha, hb, hlt⟩)
      · exact ⟨Or.inl rfl, Or.inr hy, hv.1 _ hy⟩
      · exact ⟨Or.inr ha, Or.inr hb, hlt⟩
    · rintro ⟨rfl | ha, rfl | hb, hlt⟩
      · exact absurd hlt (Nat.lt_irrefl _)
      · exact Or.inl ⟨_, hb, rfl, rfl⟩
      · exact absurd (hv.1 _ ha) (Nat.lt_asymm hlt)
      · exact Or.inr ⟨ha, hb, hlt⟩

theorem pairsBetween_mem (v w : List Nat) (a b : Nat) :
    (a, b) ∈ pairsBetween v w ↔ a ∈ v ∧ b ∈ w := by
  simp [pairsBetween]

theorem addCell_subCell (k d : Cell) : addCell k (subCell d k) = d := by
  simp only [addCell, subCell, Prod.ext_iff]; omega

theorem subCell_addCell (k d : Cell) : subCell (addCell k d) k = d := by
  simp only [addCell, subCell, Prod.ext_iff]; omega

/-- **the pairs handed to `_find_bonds_for_atoms`**: two atoms of one cell with the lower index first, and two atoms such that
    a listed offset leads from the cell of the first to the cell of the second -/
theorem mem_visited (H : List Cell) (cell : Nat → Cell) (n a b : Nat) :
    (a, b) ∈ visited H (buildBoxes cell n) ↔
      a < n ∧ b < n ∧ (cell a = cell b ∧ a < b ∨ subCell (cell b) (cell a) ∈ H) := by
  simp only [visited, visitedBox, List.mem_flatMap, List.mem_append]
  constructor
  · rintro ⟨⟨k, v⟩, hkv, hp⟩
    obtain ⟨hs, hv⟩ := box_entries cell n _ hkv
    rcases hp with hp | ⟨d, hd, hp⟩
    · obtain ⟨ha, hb, hlt⟩ := (mem_pairsWithin hs a b).mp hp
      exact ⟨(hv a ha).1, (hv b hb).1, Or.inl ⟨(hv a ha).2.trans (hv b hb).2.symm, hlt⟩⟩
    · cases hw : lookupBox (buildBoxes cell n) (addCell k d) with
      | none => simp [hw] at hp
      | some w =>
        simp only [hw, pairsBetween_mem] at hp
        have hb := ((lookup_build cell n _).1 w hw b).1 hp.2
        refine ⟨(hv a hp.1).1, hb.1, Or.inr ?_⟩
        rwa [hb.2, (hv a hp.1).2, subCell_addCell]
  · rintro ⟨ha, hb, h⟩
    obtain ⟨v, hv, hav⟩ := lookup_cell cell n a ha
    refine ⟨_, mem_of_lookup hv, ?_⟩
    rcases h with ⟨hc, hlt⟩ | hd
    · exact Or.inl ((mem_pairsWithin (box_entries cell n _ (mem_of_lookup hv)).1 a b).mpr
        ⟨hav, ((lookup_build cell n _).1 v hv b).2 ⟨hb, hc.symm⟩, hlt⟩)
    · obtain ⟨w, hw, hbw⟩ := lookup_cell cell n b hb
      exact Or.inr ⟨_, hd, by simp only [addCell_subCell, hw, pairsBetween_mem]; exact ⟨hav, hbw⟩⟩

/-- coverage: every pair of distinct atoms in neighbouring cells is visited in one of the two orders -/
theorem visited_cover (H : List Cell) (cell : Nat → Cell) (n i j : Nat) (hi : i < n) (hj : j < n)
    (hne : i ≠ j)
    (hnear : cell i = cell j ∨ subCell (cell j) (cell i) ∈ H ∨ subCell (cell i) (cell j) ∈ H) :
    (i, j) ∈ visited H (buildBoxes cell n) ∨ (j, i) ∈ visited H (buildBoxes cell n) := by
  simp only [mem_visited]
  rcases hnear with h | h | h
  · rcases Nat.lt_or_gt_of_ne hne with hlt | hlt
    · exact Or.inl ⟨hi, hj, Or.inl ⟨h, hlt⟩⟩
    · exact Or.inr ⟨hj, hi, Or.inl ⟨h.symm, hlt⟩⟩
  · exact Or.inl ⟨hi, hj, Or.inr h⟩
  · exact Or.inr ⟨hj, hi, Or.inr h⟩

theorem visited_lt_ne (H : List Cell) (h0 : (0, 0, 0) ∉ H) (cell : Nat → Cell) (n a b : Nat)
    (h : (a, b) ∈ visited H (buildBoxes cell n)) : a < n ∧ b < n ∧ a ≠ b := by
  obtain ⟨ha, hb, hab⟩ := (mem_visited H cell n a b).mp h
  refine ⟨ha, hb, ?_⟩
  rintro rfl
  rcases hab with ⟨_, hlt⟩ | hd
  · exact Nat.lt_irrefl _ hlt
  · exact h0 (by convert hd using 1; simp only [subCell, Prod.ext_iff]; omega)

theorem findBonds_mem (H : List Cell) (h0 : (0, 0, 0) ∉ H) (cell : Nat → Cell) (crit : Nat → Nat → Bool) (n a b : Nat)
    (h : (a, b) ∈ findBonds H cell crit n) : a < n ∧ b < n ∧ a ≠ b ∧ crit a b = true := by
  obtain ⟨hv, hc⟩ := mem_fold crit _ _ h
  obtain ⟨ha, hb, hab⟩ := visited_lt_ne H h0 cell n a b hv
  exact ⟨ha, hb, hab, hc⟩

/-- equal or adjacent cells -/
def nearC (a b : Cell) : Prop :=
  (-1 ≤ b.1 - a.1 ∧ b.1 - a.1 ≤ 1) ∧ (-1 ≤ b.2.1 - a.2.1 ∧ b.2.1 - a.2.1 ≤ 1) ∧
  (-1 ≤ b.2.2 - a.2.2 ∧ b.2.2 - a.2.2 ≤ 1)

/-- the 27 offsets between a cell and its neighbours, itself included -/
def cube : List Cell :=
  ([-1,0,1] : List Int).flatMap fun a => ([-1,0,1] : List Int).flatMap fun b =>
    ([-1,0,1] : List Int).map fun c => (a,b,c)

/-- the obligation on the offset list: of every non-zero neighbour direction, it or its opposite is listed -/
def HalfComplete (H : List Cell) : Prop := ∀ d ∈ cube, d = (0,0,0) ∨ d ∈ H ∨ negCell d ∈ H

theorem near_cases (H : List Cell) (hH : HalfComplete H) (a b : Cell) (h : nearC a b) :
    a = b ∨ subCell b a ∈ H ∨ subCell a b ∈ H := by
  obtain ⟨⟨h1, h2⟩, ⟨h3, h4⟩, ⟨h5, h6⟩⟩ := h
  have hc : subCell b a ∈ cube := by
    simp only [cube, List.mem_flatMap, List.mem_map, List.mem_cons, List.not_mem_nil, or_false]
    exact ⟨_, by omega, _, by omega, _, by omega, rfl⟩
  have hneg : negCell (subCell b a) = subCell a b := by
    simp only [negCell, subCell, Prod.ext_iff]; omega
  rcases hH _ hc with h0 | hH | hH
  · left
    simp only [subCell, Prod.ext_iff] at h0 ⊢
    omega
  · exact Or.inr (Or.inl hH)
  · exact Or.inr (Or.inr (hneg ▸ hH))

/-- the cell list finds exactly the pairs the criterion accepts -/
theorem boxes_eq_pairwise (H : List Cell) (hH : HalfComplete H) (cell : Nat → Cell) (crit : Nat → Nat → Bool) (n : Nat)
    (hsym : ∀ a b, crit a b = crit b a)
    (hlocal : ∀ i j, crit i j = true → nearC (cell i) (cell j))
    (i j : Nat) (hi : i < n) (hj : j < n) (hne : i ≠ j) :
    bondedIn (findBonds H cell crit n) i j ↔ crit i j = true := by
  unfold findBonds
  rw [bonded_fold crit hsym]
  constructor
  · rintro (h | ⟨_, hc⟩)
    · rcases h with h | h <;> cases h
    · exact hc
  · intro hc
    right
    exact ⟨visited_cover H cell n i j hi hj hne (near_cases H hH _ _ (hlocal i j hc)), hc⟩

theorem mem_adjOf (ps : List (Nat × Nat)) (i j : Nat) : j ∈ adjOf ps i ↔ bondedIn ps i j := by
  unfold adjOf
  simp only [List.mem_filterMap]
  constructor
  · rintro ⟨⟨p1, p2⟩, hp, h⟩
    split at h
    · rename_i e; cases h; subst e; left; exact hp
    · split at h
      · rename_i e; cases h; subst e; right; exact hp
      · cases h
  · rintro (h | h)
    · exact ⟨(i, j), h, if_pos rfl⟩
    · refine ⟨(j, i), h, ?_⟩
      by_cases e : j = i
      · subst e; simp
      · simp [e]

theorem adjOf_symm (ps : List (Nat × Nat)) (i j : Nat) : j ∈ adjOf ps i ↔ i ∈ adjOf ps j := by
  rw [mem_adjOf, mem_adjOf]; exact Or.comm

/-- appending a pair to the list is `make_bond` on the adjacency -/
theorem adjOf_append (ps : List (Nat × Nat)) (a b : Nat) (hab : a ≠ b) :
    adjOf (ps ++ [(a, b)]) = appendTo (appendTo (adjOf ps) b a) a b := by
  funext i
  unfold adjOf appendTo
  by_cases hia : i = a
  · subst hia; simp [hab]
  · by_cases hib : i = b
    · subst hib; simp [hia, Ne.symm hia]
    · simp [hia, hib, Ne.symm hia, Ne.symm hib]

theorem mem_of_lookupDist {α} {ds : List ((String × String) × α)} {k : String × String} {t : α}
    (h : lookupDist ds k = some t) : (k, t) ∈ ds := by
  induction ds with
  | nil => simp [lookupDist] at h
  | cons kv rest ih =>
    obtain ⟨k', v⟩ := kv
    simp only [lookupDist] at h
    by_cases e : k' = k
    · simp [e] at h; subst e; subst h; simp
    · simp [e] at h; exact List.mem_cons_of_mem _ (ih h)

theorem lookupDist_symm {α} (ds : List ((String × String) × α))
    (hds : ∀ kv ∈ ds, lookupDist ds (kv.1.2, kv.1.1) = lookupDist ds kv.1) (a b : String) :
    lookupDist ds (a, b) = lookupDist ds (b, a) := by
  have half : ∀ a b t, lookupDist ds (a, b) = some t → lookupDist ds (b, a) = some t :=
    fun a b t h => (hds _ (mem_of_lookupDist h)).trans h
  exact Option.ext fun t => ⟨half a b t, half b a t⟩

theorem crit_symm (P : BondParams Int) (hP : ∀ kv ∈ P.dists, lookupDist P.dists (kv.1.2, kv.1.1) = lookupDist P.dists kv.1)
    (a b : BAtom Int) : crit P a b = crit P b a := by
  have hd : sqDist b a = sqDist a b := by simp only [sqDist]; ring
  have hh : hCount b a = hCount a b := Nat.add_comm _ _
  unfold crit
  simp only [hd, hh, lookupDist_symm P.dists hP b.elem a.elem]

/-- a coordinate difference whose square is at most `(B - 1)²` crosses at most one cell boundary (`(B - 1)²` is the integer form of
    "shorter than the box" in which the shipped table is checked; the proof needs `B²` only) -/
theorem axis_near (B x1 x2 : Int) (hB : 0 < B) (hs : (x2 - x1) * (x2 - x1) ≤ (B - 1) * (B - 1)) :
    -1 ≤ x2 / B - x1 / B ∧ x2 / B - x1 / B ≤ 1 := by
  have key : ∀ d : Int, d * d ≤ (B - 1) * (B - 1) → d ≤ B := fun d hd =>
    not_lt.mp fun h => absurd hd (not_le.mpr (mul_self_lt_mul_self (by omega) (by omega)))
  have step : ∀ x y : Int, y - x ≤ B → y / B ≤ x / B + 1 := fun x y h => by
    have := Int.ediv_le_ediv hB (show y ≤ x + B by omega)
    rwa [Int.add_ediv_of_dvd_right (dvd_refl B), Int.ediv_self hB.ne'] at this
  have := step x1 x2 (key _ hs)
  have := step x2 x1 (key _ (by rwa [← neg_sub, neg_mul_neg]))
  omega

theorem crit_near (P : BondParams Int) (hP : maxSq P ≤ (P.box - 1) * (P.box - 1) ∧ 0 < P.box) (a b : BAtom Int)
    (h : crit P a b = true) : nearC (cellOf P a) (cellOf P b) := by
  have hd : sqDist a b ≤ (P.box - 1) * (P.box - 1) := by
    refine le_trans (not_lt.mp fun hc => ?_) hP.1
    rw [crit, if_pos hc] at h
    exact Bool.false_ne_true h
  simp only [sqDist] at hd
  have hx := mul_self_nonneg (b.x - a.x)
  have hy := mul_self_nonneg (b.y - a.y)
  have hz := mul_self_nonneg (b.z - a.z)
  -- each of the three squares, an atom to `omega`, is at most their sum
  exact ⟨axis_near P.box a.x b.x hP.2 (by omega), axis_near P.box a.y b.y hP.2 (by omega),
    axis_near P.box a.z b.z hP.2 (by omega)⟩

/-! ### `make_bond` keeps the bond lists symmetric, irreflexive and duplicate-free -/
def AdjInv (s : Adj) : Prop := (∀ i j, j ∈ s i ↔ i ∈ s j) ∧ (∀ i, i ∉ s i) ∧ (∀ i, (s i).Nodup)

theorem mem_appendTo (s : Adj) (i x k j : Nat) : j ∈ appendTo s i x k ↔ j ∈ s k ∨ (k = i ∧ j = x) := by
  unfold appendTo
  split <;> simp [*]

theorem nodup_appendTo (s : Adj) (i x k : Nat) (hn : (s k).Nodup) (hx : x ∉ s i) : (appendTo s i x k).Nodup := by
  unfold appendTo
  split
  · rename_i e; subst e
    exact List.nodup_append.mpr ⟨hn, by simp, fun a ha b hb => by
      rw [List.mem_singleton.mp hb]; rintro rfl; exact hx ha⟩
  · exact hn

/-- **`make_bond` adds exactly the two mutual entries**, and adds them once -/
theorem makeBond_eq (s : Adj) (a b : Nat) (h : ∀ i j, j ∈ s i ↔ i ∈ s j) :
    makeBond s a b = if a = b ∨ a ∈ s b then s else appendTo (appendTo s b a) a b := by
  unfold makeBond
  by_cases hab : a = b
  · simp [hab]
  · by_cases h1 : a ∈ s b
    · simp [hab, h1, (h a b).mpr h1]
    · have h2 : b ∉ appendTo s b a a := by
        rw [mem_appendTo]; rintro (h2 | ⟨e, _⟩)
        · exact h1 ((h a b).mp h2)
        · exact hab e
      simp [hab, h1, h2]

theorem makeBond_inv (s : Adj) (a b : Nat) (h : AdjInv s) : AdjInv (makeBond s a b) := by
  rw [makeBond_eq s a b h.1]
  split
  · exact h
  · rename_i hc
    obtain ⟨hs, hi, hn⟩ := h
    have hab : a ≠ b := fun e => hc (Or.inl e)
    have h1 : a ∉ s b := fun e => hc (Or.inr e)
    refine ⟨fun i j => ?_, fun i => ?_, fun i => ?_⟩
    · exact symm_add_pair (R := fun i j => j ∈ s i) (R' := fun i j => j ∈ appendTo (appendTo s b a) a b i) b a hs
        (fun i j => by rw [mem_appendTo, mem_appendTo, or_assoc]) i j
    · rw [mem_appendTo, mem_appendTo]; rintro ((e | ⟨rfl, e⟩) | ⟨rfl, e⟩)
      · exact hi i e
      · exact hab e.symm
      · exact hab e
    · refine nodup_appendTo _ _ _ _ (nodup_appendTo _ _ _ _ (hn i) h1) ?_
      rw [mem_appendTo]; rintro (e | ⟨e, _⟩)
      · exact h1 ((hs a b).mp e)
      · exact hab e

theorem makeBond_seq_inv (ops : List (Nat × Nat)) (s : Adj) (h : AdjInv s) :
    AdjInv (ops.foldl (fun s p => makeBond s p.1 p.2) s) :=
  List.foldlRecOn ops _ h fun s hs p _ => makeBond_inv s p.1 p.2 hs

end Propka.Bonds
