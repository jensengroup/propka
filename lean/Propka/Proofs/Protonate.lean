import Propka.Model.Protonate
/-! What `Prot.trigonal` and `Prot.tetrahedral` return on the shapes of input that C17 speaks of (any scalar).  With one hydrogen
    to add they complete the centre; with two, the first hydrogen is placed by a rotation and the second is what the same
    function builds for the centre with that hydrogen among its neighbours. -/
namespace Propka.Prot
open Propka.Rot
variable {α : Type} [Add α] [Sub α] [Mul α] [Div α] [Neg α] [OfNat α 0] [OfNat α 1] [OfNat α 2]
  [DecidableEq α] [LT α] [DecidableLT α] [Trig α]
variable {rnd : V3 α → V3 α} {deg120 deg1095 deg90 : α} {c : Call α}

theorem trigonal_two {b1 b2 : V3 α} (hb : c.bonded = [b1, b2]) (ht : c.toAdd = 1) :
    trigonal rnd deg120 c =
      [rnd (vadd c.atom (rescale (vsub (vneg (rescale (between c.atom b1) 1)) (rescale (between c.atom b2) 1)) c.bondLen))] := by
  simp [trigonal, hb, ht]

theorem trigonal_one {b0 o1 o2 : V3 α} (hb : c.bonded = [b0]) (ho : c.nbOthers = [o1, o2]) (hs : c.nbSteric = 3)
    (ht : c.toAdd = 2) :
    trigonal rnd deg120 c =
      let v := between c.atom b0
      let ax := cross v (between b0 o1)
      let ax2 := cross v (between b0 o2)
      let h1 := rnd (vadd c.atom (rescale (rotateAround deg120 (if 0 < dot ax ax2 then vadd ax ax2 else vsub ax ax2) v) c.bondLen))
      h1 :: trigonal rnd deg120 { c with bonded := [b0, h1], toAdd := 1 } := by
  simp [trigonal, hb, ho, hs, ht]

theorem tetrahedral_three {b1 b2 b3 : V3 α} (hb : c.bonded = [b1, b2, b3]) (ht : c.toAdd = 1) :
    tetrahedral rnd deg1095 deg90 c =
      [rnd (vadd c.atom (rescale (vsub (vsub (vneg (rescale (between c.atom b1) 1)) (rescale (between c.atom b2) 1))
        (rescale (between c.atom b3) 1)) c.bondLen))] := by
  simp [tetrahedral, hb, ht]

theorem tetrahedral_two {b1 b2 : V3 α} (hb : c.bonded = [b1, b2]) (ht : c.toAdd = 2) :
    tetrahedral rnd deg1095 deg90 c =
      let a1 := rescale (between c.atom b1) 1
      let h1 := rnd (vadd c.atom (rescale (rotateAround deg90 (vadd a1 (rescale (between c.atom b2) 1)) (vneg a1)) c.bondLen))
      h1 :: tetrahedral rnd deg1095 deg90 { c with bonded := [b1, b2, h1], toAdd := 1 } := by
  simp [tetrahedral, hb, ht]

end Propka.Prot
