import Propka.Model.Scoring
import Propka.Proofs.Basics
set_option linter.unusedSectionVars false
/-! Facts about the scoring model that hold for every scalar type (also at `Float`): what the closest-pair search, one
    visited pair and one backbone pair can return (the characterisations the sign, bound and locality proofs start from),
    that the records of `score` are `finish` of the group index, that `finish` ends with `calculate_total_pka` of exactly
    the lists it returns, and the fields of the final record in terms of the per-phase definitions. -/
namespace Propka.Scoring
open Propka.Energy

theorem tab_map_range {β : Type} (f : Nat → β) (d : β) (n g : Nat) (hg : g < n) :
    tab ((Array.range n).map f) d g = f g := by
  simp [tab, Array.getD, hg]

section
variable {α : Type} [LT α] [DecidableLT α] {sq sq' : Nat → Nat → α} {as bs : List Nat}

theorem smallest_induct (P : Option (Best α) → Prop) (h0 : P none)
    (step : ∀ a ∈ as, ∀ b ∈ bs, ∀ best, P best → P (bestStep sq a best b)) : P (smallest sq as bs) :=
  List.foldlRecOn as _ h0 fun _ h a ha => List.foldlRecOn bs _ h fun best h b hb => step a ha b hb best h

theorem smallest_mem {r : Best α} (hr : smallest sq as bs = some r) : r.a ∈ as ∧ r.b ∈ bs ∧ r.d = sq r.a r.b := by
  refine smallest_induct (fun o => ∀ r, o = some r → r.a ∈ as ∧ r.b ∈ bs ∧ r.d = sq r.a r.b) (fun _ h => nomatch h) ?_ r hr
  intro a ha b hb best ih r hr
  unfold bestStep at hr
  split at hr
  · cases hr; exact ⟨ha, hb, rfl⟩
  · split at hr
    · cases hr; exact ⟨ha, hb, rfl⟩
    · exact ih r hr

theorem smallest_congr (h : ∀ a ∈ as, ∀ b ∈ bs, sq' a b = sq a b) : smallest sq' as bs = smallest sq as bs :=
  List.foldl_rel (r := Eq) rfl fun a ha _ _ e => e ▸ List.foldl_rel (r := Eq) rfl fun b hb _ _ e => by
    unfold bestStep; rw [e, h a ha b hb]
end

section
variable {α : Type} [Add α] [Sub α] [Mul α] [Div α] [Neg α] [NatCast α] [LT α] [LE α]
  [DecidableLT α] [DecidableLE α] [Max α] [Min α] [BEq α] [Inhabited α] [Trig α]

theorem score_length (p : SP α) (env : Env α) (atoms : Tab AtomT) (groups : Tab (GroupT α)) :
    (score p env atoms groups).length = groups.n := by
  simp [score]

theorem score_get (p : SP α) (env : Env α) (atoms : Tab AtomT) (groups : Tab (GroupT α)) (g : Nat) (hg : g < groups.n) :
    (score p env atoms groups)[g]? =
      some (finish p env groups (tab (stagesTab p env atoms groups) Stage.dflt) (pensOf p env groups (stagesTab p env atoms groups)) g) := by
  simp only [score]
  rw [List.getElem?_map, List.getElem?_range hg]
  rfl

/-- `finish` copies the stage record, keeps a part of each determinant list, and ends with `calculate_total_pka` of exactly
    the lists it returns -/
theorem finish_spec (p : SP α) (env : Env α) (groups : Tab (GroupT α)) (st : Nat → Stage α) (pens : List (Nat × Nat)) (g : Nat) :
    ∃ sc bb cb ctg, (∀ d ∈ sc, d ∈ (st g).sc) ∧ (∀ d ∈ bb, d ∈ (st g).bb) ∧ (∀ d ∈ cb, d ∈ (st g).cb) ∧
      finish p env groups st pens g = ⟨(st g).nv, (st g).buried, (st g).evol, (st g).eloc, sc, bb, cb,
        totalPka p (gget groups g) (st g).evol (st g).eloc sc bb cb, ctg⟩ := by
  have sub (c : Bool) (l : List (Det α)) : ∀ d ∈ (if c then removeDets env pens l else l), d ∈ l := by
    split
    · exact fun d h => (List.mem_filter.mp h).1
    · exact fun _ h => h
  unfold finish
  simp only
  split
  · exact ⟨_, _, _, _, sub _ _, sub _ _, sub _ _, rfl⟩
  -- nothing is removed: the record keeps its lists, and `pkaFirst` is by definition their `totalPka`
  · exact ⟨_, _, _, _, fun _ h => h, fun _ h => h, fun _ h => h, rfl⟩

theorem finish_total (p : SP α) (env : Env α) (groups : Tab (GroupT α)) (st : Nat → Stage α) (pens : List (Nat × Nat)) (g : Nat) :
    (finish p env groups st pens g).pka =
      totalPka p (gget groups g) (finish p env groups st pens g).evol (finish p env groups st pens g).eloc
        (finish p env groups st pens g).sc (finish p env groups st pens g).bb (finish p env groups st pens g).cb := by
  obtain ⟨_, _, _, _, _, _, _, hf⟩ := finish_spec p env groups st pens g
  rw [hf]

/-- the determinants written by the non-iterative pair rules / by the iterative scheme in a run of `score` -/
def emsFinal (p : SP α) (env : Env α) (atoms : Tab AtomT) (groups : Tab (GroupT α)) : List (Em α) :=
  nonIterEms (pairResults p env atoms groups (nvF (desTab p env atoms groups)))
def itsFinal (p : SP α) (env : Env α) (atoms : Tab AtomT) (groups : Tab (GroupT α)) : List (Em α) :=
  iterEms p groups (tab (stage1Tab p env atoms groups (desTab p env atoms groups)
      (pairResults p env atoms groups (nvF (desTab p env atoms groups)))) Stage.dflt)
    (iterInters (pairResults p env atoms groups (nvF (desTab p env atoms groups))))

theorem stages_get (p : SP α) (env : Env α) (atoms : Tab AtomT) (groups : Tab (GroupT α)) (g : Nat) (hg : g < groups.n) :
    tab (stagesTab p env atoms groups) Stage.dflt g =
      stage2 (stage1 p env atoms groups (volF (desTab p env atoms groups)) (nvF (desTab p env atoms groups))
          (emsFinal p env atoms groups) g) (itsFinal p env atoms groups) g := by
  simp only [stagesTab, stage2Tab]
  rw [tab_map_range _ _ _ _ hg]
  simp only [stage1Tab]
  rw [tab_map_range _ _ _ _ hg]
  rfl

theorem iter_no_backbone (p : SP α) (groups : Tab (GroupT α)) (st : Nat → Stage α) (inters : List (Iter.Inter α)) (g : Nat) :
    emsOf (iterEms p groups st inters) g .backbone = [] := by
  unfold emsOf iterEms
  rw [List.map_eq_nil_iff, List.filter_eq_nil_iff, List.forall_mem_map]
  intro d _
  cases d.kind <;> simp [iterKind]

/-- the final record of an in-range group, field by field, in terms of the per-phase definitions -/
theorem record_unfold (p : SP α) (env : Env α) (atoms : Tab AtomT) (groups : Tab (GroupT α)) (g : Nat) (hg : g < groups.n) :
    ∃ o : GOut α,
      (score p env atoms groups)[g]? = some o ∧
      o.buried = buriedOf p groups (nvF (desTab p env atoms groups)) g ∧
      o.evol = evolOf p groups (volF (desTab p env atoms groups)) (nvF (desTab p env atoms groups)) g ∧
      o.eloc = elocOf p env groups (nvF (desTab p env atoms groups)) g ∧
      (∀ d ∈ o.bb, d ∈ bbDets p env atoms groups g) ∧
      (∀ d ∈ o.cb, d ∈ ionDets p env groups (nvF (desTab p env atoms groups)) g ∨ d ∈ emsOf (emsFinal p env atoms groups) g .coulomb
        ∨ d ∈ emsOf (itsFinal p env atoms groups) g .coulomb) ∧
      (∀ d ∈ o.sc, d ∈ emsOf (emsFinal p env atoms groups) g .sidechain ∨ d ∈ emsOf (itsFinal p env atoms groups) g .sidechain) := by
  obtain ⟨sc, bb, cb, ctg, hsc, hbb, hcb, hf⟩ := finish_spec p env groups (tab (stagesTab p env atoms groups) Stage.dflt)
    (pensOf p env groups (stagesTab p env atoms groups)) g
  rw [stages_get p env atoms groups g hg] at hsc hbb hcb hf
  refine ⟨_, (score_get p env atoms groups g hg).trans (congrArg some hf), rfl, rfl, rfl, fun d hd => ?_, fun d hd => ?_,
    fun d hd => ?_⟩
  · simpa only [stage2, stage1, itsFinal, iter_no_backbone, List.append_nil] using hbb d hd
  · simpa only [stage2, stage1, List.mem_append, or_assoc] using hcb d hd
  · simpa only [stage2, stage1, List.mem_append] using hsc d hd
end

theorem mem_emsOf {α : Type} {ems : List (Em α)} {g : Nat} {k : Kind} {d : Det α} (h : d ∈ emsOf ems g k) :
    (⟨g, d.partner, k, d.value⟩ : Em α) ∈ ems := by
  obtain ⟨e, he, rfl⟩ := List.mem_map.mp h
  obtain ⟨hm, hc⟩ := List.mem_filter.mp he
  simp only [Bool.and_eq_true, beq_iff_eq] at hc
  obtain ⟨rfl, rfl⟩ := hc
  exact hm

theorem interAtoms_eq {α : Type} (p : SP α) (g o : GroupT α) : interAtoms p g o = g.iaBase ∨ interAtoms p g o = g.iaAcid := by
  unfold interAtoms
  split
  · exact .inl rfl
  · exact .inr rfl

/-- the inner loop stops at `a`, so what stands behind the first `a` is not read -/
theorem innerPairs_prefix {α : Type} (G : Tab (GroupT α)) (a : Nat) (l1 l2 : List Nat) (ha : a ∈ l1) :
    innerPairs G a (l1 ++ l2) = innerPairs G a l1 := by
  induction l1 with
  | nil => nomatch ha
  | cons b l ih =>
    simp only [List.cons_append, innerPairs]
    split
    · rfl
    · rename_i hc
      rw [ih ((List.mem_cons.mp ha).resolve_left fun e => hc (by simp [e]))]

theorem innerPairs_congr {α : Type} (G G' : Tab (GroupT α)) (a : Nat) (l : List Nat) (hc : (gget G' a).cov = (gget G a).cov) :
    innerPairs G' a l = innerPairs G a l := by
  induction l with
  | nil => rfl
  | cons b l ih => simp only [innerPairs, hc, ih]

theorem innerPairs_mem {α : Type} (G : Tab (GroupT α)) (a : Nat) (l : List Nat) (ab : Nat × Nat) (h : ab ∈ innerPairs G a l) : ab.1 = a ∧ ab.2 ∈ l := by
  induction l with
  | nil => nomatch h
  | cons b l ih =>
    simp only [innerPairs] at h
    split at h
    · nomatch h
    · rcases List.mem_cons.mp h with e | e
      · rw [e]; exact ⟨rfl, List.mem_cons_self⟩
      · exact ⟨(ih e).1, List.mem_cons_of_mem _ (ih e).2⟩

theorem emsOf_append {α : Type} (l1 l2 : List (Em α)) (g : Nat) (k : Kind) : emsOf (l1 ++ l2) g k = emsOf l1 g k ++ emsOf l2 g k := by
  unfold emsOf; rw [List.filter_append, List.map_append]

theorem emsOf_nil_of_owner {α : Type} (l : List (Em α)) (g : Nat) (k : Kind) (n : Nat) (hg : g < n) (h : ∀ e ∈ l, n ≤ e.owner) : emsOf l g k = [] :=
  List.eq_nil_iff_forall_not_mem.mpr fun _ hd => absurd (h _ (mem_emsOf hd)) (Nat.not_le.mpr hg)

theorem mem_tagOut {α : Type} {a b : Nat} {k : Kind} {o : Out α} {e : Em α} (h : e ∈ tagOut a b k o) :
    e.kind = k ∧ (e.owner = a ∨ e.owner = b) := by
  obtain ⟨r, _, rfl⟩ := List.mem_map.mp h
  split
  · exact ⟨rfl, Or.inl rfl⟩
  · exact ⟨rfl, Or.inr rfl⟩

variable {α : Type} [Add α] [Sub α] [Mul α] [Div α] [Neg α] [NatCast α] [LT α] [LE α]
  [DecidableLT α] [DecidableLE α] [Max α] [Min α] [BEq α] [Inhabited α] [Trig α]
variable {p : SP α} {env : Env α} {atoms : Tab AtomT} {groups : Tab (GroupT α)}

theorem mem_nonIterEms {nv : Nat → Nat} {e : Em α} : e ∈ nonIterEms (pairResults p env atoms groups nv) ↔
    ∃ ab ∈ visited groups, e ∈ (pairStep p env atoms groups (fun g => ((nv g : Nat) : α)) ab).ems := by
  simp only [nonIterEms, pairResults, List.flatMap_map, List.mem_flatMap]

theorem mem_iterInters {nv : Nat → Nat} {it : Iter.Inter α} : it ∈ iterInters (pairResults p env atoms groups nv) ↔
    ∃ ab ∈ visited groups, (pairStep p env atoms groups (fun g => ((nv g : Nat) : α)) ab).inter = some it := by
  simp only [iterInters, pairResults, List.filterMap_map, List.mem_filterMap, Function.comp]

variable {nv : Nat → α} {ab : Nat × Nat}

/-- a non-iterative determinant of a pair is an output of one of the two pair rules, applied to the pair's hydrogen-bond
    or Coulomb value -/
theorem mem_pairStep_ems {e : Em α} (he : e ∈ (pairStep p env atoms groups nv ab).ems) :
    (∃ v, hbVal p env atoms (gget groups ab.1) (gget groups ab.2) (nv ab.1) (nv ab.2) = some v ∧
      e ∈ tagOut ab.1 ab.2 .sidechain (sidechainRule (gget groups ab.1).q (gget groups ab.2).q
        (gget groups ab.1).model (gget groups ab.2).model v)) ∨
    (∃ v, coulVal p (gget groups ab.1) (gget groups ab.2) (nv ab.1) (nv ab.2) (Trig.sqrt (env.sqGG ab.1 ab.2)) = some v ∧
      e ∈ tagOut ab.1 ab.2 .coulomb (coulombRule (gget groups ab.1).q (gget groups ab.2).q
        (gget groups ab.1).model (gget groups ab.2).model v)) := by
  unfold pairStep at he
  simp only at he
  -- the cut-off test, then the matrix entry: 'I' writes nothing here, 'N' the outputs of the two rules, each under the
  -- guard that its value is there and not zero
  split at he
  · split at he
    · split at he <;> nomatch he
    · rcases List.mem_append.mp he with h | h
      · split at h
        · rename_i v hv
          split at h
          · exact Or.inl ⟨v, hv, h⟩
          · nomatch h
        · nomatch h
      · split at h
        · rename_i v hv
          split at h
          · exact Or.inr ⟨v, hv, h⟩
          · nomatch h
        · nomatch h
    · nomatch he
  · nomatch he

theorem pairStep_inter {it : Iter.Inter α} (h : (pairStep p env atoms groups nv ab).inter = some it) :
    it = ⟨ab.1, ab.2, (hbVal p env atoms (gget groups ab.1) (gget groups ab.2) (nv ab.1) (nv ab.2)).getD zero,
      (coulVal p (gget groups ab.1) (gget groups ab.2) (nv ab.1) (nv ab.2) (Trig.sqrt (env.sqGG ab.1 ab.2))).getD zero⟩ := by
  unfold pairStep at h
  simp only at h
  -- only a pair within the cut-off whose matrix entry is 'I' and one of whose values is not zero hands on an entry
  split at h
  · split at h
    · split at h
      · exact (Option.some.inj h).symm
      · nomatch h
    · nomatch h
    · nomatch h
  · nomatch h

theorem pairStep_owner {e : Em α} (he : e ∈ (pairStep p env atoms groups nv ab).ems) : e.owner = ab.1 ∨ e.owner = ab.2 := by
  obtain ⟨_, _, h⟩ | ⟨_, _, h⟩ := mem_pairStep_ems he <;> exact (mem_tagOut h).2

theorem bbParams_eq_some {bt tt : String} {prm : α × α × α} (h : bbParams p bt tt = some prm) :
    p.bbCO tt = some prm ∨ p.bbNH tt = some prm := by
  unfold bbParams at h
  split at h
  · exact Or.inl h
  · split at h
    · exact Or.inr h
    · nomatch h

theorem bbValue_eq_some {tg bg : GroupT α} {r : Best α} {v : α} (h : bbValue p env atoms tg bg r = some v) :
    ∃ prm, bbParams p (aget atoms r.a).gtype (aget atoms r.b).gtype = some prm ∧ Trig.sqrt r.d < prm.2.2 ∧
      v = tg.q * hbondEnergy (Trig.sqrt r.d) prm.1 prm.2.1 prm.2.2 (bbAngle p env atoms tg bg r.a r.b) := by
  unfold bbValue at h
  simp only at h
  split at h
  · nomatch h
  · rename_i prm hprm
    split at h
    · split at h
      · exact ⟨prm, hprm, ‹_›, (Option.some.inj h).symm⟩
      · nomatch h
    · nomatch h

theorem bbDet_eq_some {t b : Nat} {d : Det α} (h : bbDet p env atoms groups t b = some d) :
    ∃ r v, smallest env.sqAA (interAtoms p (gget groups b) (gget groups t)) (gget groups t).iaAcid = some r ∧
      bbValue p env atoms (gget groups t) (gget groups b) r = some v ∧ d = ⟨b, v⟩ := by
  unfold bbDet at h
  simp only at h
  -- two guards against empty atom lists, then the closest pair and its value
  split at h
  · nomatch h
  · split at h
    · nomatch h
    · split at h
      · nomatch h
      · rename_i r hr
        obtain ⟨v, hv, rfl⟩ := Option.map_eq_some_iff.mp h
        exact ⟨r, v, hr, hv, rfl⟩

end Propka.Scoring
