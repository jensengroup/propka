import Propka.Model.Protonate
import Mathlib.Tactic.Ring
import Mathlib.Tactic.LinearCombination
/-! The exact 0.001 Å grid (integer thousandths) and the 24 proper rotations that map it onto itself: the family of rigid motions
    of C04 (integer points, `Props/C04.lean`) and of C17 (the same matrices acting on real vectors, `Proofs/Equivariance.lean`).
    Both actions are instances of one, `actOn`, of an integer matrix on vectors over a commutative ring that contains ℤ; what
    is needed of the matrix is stated for an arbitrary one - any: differences go to differences; orthogonal: dot products are
    preserved; rows a right-handed frame: the cross product commutes - and the 24 enter once, by evaluation of the table. -/
namespace Propka.Geom

structure P3 where
  x : Int
  y : Int
  z : Int
  deriving DecidableEq, Repr

def sqDist (a b : P3) : Int := (b.x - a.x)*(b.x - a.x) + (b.y - a.y)*(b.y - a.y) + (b.z - a.z)*(b.z - a.z)
def add (a t : P3) : P3 := ⟨a.x + t.x, a.y + t.y, a.z + t.z⟩
def sub (a b : P3) : P3 := ⟨a.x - b.x, a.y - b.y, a.z - b.z⟩
def dot (a b : P3) : Int := a.x*b.x + a.y*b.y + a.z*b.z
def cross (a b : P3) : P3 := ⟨a.y*b.z - a.z*b.y, a.z*b.x - a.x*b.z, a.x*b.y - a.y*b.x⟩

abbrev Mat := (Int × Int × Int) × (Int × Int × Int) × (Int × Int × Int)
def apply (m : Mat) (v : P3) : P3 :=
  ⟨m.1.1*v.x + m.1.2.1*v.y + m.1.2.2*v.z, m.2.1.1*v.x + m.2.1.2.1*v.y + m.2.1.2.2*v.z, m.2.2.1*v.x + m.2.2.2.1*v.y + m.2.2.2.2*v.z⟩
def mul (a b : Mat) : Mat :=
  let col (j : Fin 3) : P3 := match j with
    | 0 => ⟨b.1.1, b.2.1.1, b.2.2.1⟩ | 1 => ⟨b.1.2.1, b.2.1.2.1, b.2.2.2.1⟩ | 2 => ⟨b.1.2.2, b.2.1.2.2, b.2.2.2.2⟩
  let row (r : Int × Int × Int) : Int × Int × Int :=
    (r.1*(col 0).x + r.2.1*(col 0).y + r.2.2*(col 0).z, r.1*(col 1).x + r.2.1*(col 1).y + r.2.2*(col 1).z, r.1*(col 2).x + r.2.1*(col 2).y + r.2.2*(col 2).z)
  (row a.1, row a.2.1, row a.2.2)
def det (m : Mat) : Int :=
  m.1.1*(m.2.1.2.1*m.2.2.2.2 - m.2.1.2.2*m.2.2.2.1) - m.1.2.1*(m.2.1.1*m.2.2.2.2 - m.2.1.2.2*m.2.2.1) + m.1.2.2*(m.2.1.1*m.2.2.2.1 - m.2.1.2.1*m.2.2.1)
def transpose (m : Mat) : Mat := ((m.1.1, m.2.1.1, m.2.2.1), (m.1.2.1, m.2.1.2.1, m.2.2.2.1), (m.1.2.2, m.2.1.2.2, m.2.2.2.2))
def ident : Mat := ((1,0,0),(0,1,0),(0,0,1))

def vec (r : Int × Int × Int) : P3 := ⟨r.1, r.2.1, r.2.2⟩

/-- the rows are a right-handed frame (each the cross product of the next two) -/
abbrev RightHanded (m : Mat) : Prop :=
  cross (vec m.2.1) (vec m.2.2) = vec m.1 ∧ cross (vec m.2.2) (vec m.1) = vec m.2.1 ∧ cross (vec m.1) (vec m.2.1) = vec m.2.2

/-- the 24 proper rotations that map the coordinate grid onto itself -/
def rot24 : List Mat := [
  ((1,0,0),(0,1,0),(0,0,1)), ((1,0,0),(0,-1,0),(0,0,-1)), ((-1,0,0),(0,1,0),(0,0,-1)), ((-1,0,0),(0,-1,0),(0,0,1)),
  ((1,0,0),(0,0,1),(0,-1,0)), ((1,0,0),(0,0,-1),(0,1,0)), ((-1,0,0),(0,0,1),(0,1,0)), ((-1,0,0),(0,0,-1),(0,-1,0)),
  ((0,1,0),(1,0,0),(0,0,-1)), ((0,1,0),(-1,0,0),(0,0,1)), ((0,-1,0),(1,0,0),(0,0,1)), ((0,-1,0),(-1,0,0),(0,0,-1)),
  ((0,1,0),(0,0,1),(1,0,0)), ((0,1,0),(0,0,-1),(-1,0,0)), ((0,-1,0),(0,0,1),(-1,0,0)), ((0,-1,0),(0,0,-1),(1,0,0)),
  ((0,0,1),(1,0,0),(0,1,0)), ((0,0,1),(-1,0,0),(0,-1,0)), ((0,0,-1),(1,0,0),(0,-1,0)), ((0,0,-1),(-1,0,0),(0,1,0)),
  ((0,0,1),(0,1,0),(-1,0,0)), ((0,0,1),(0,-1,0),(1,0,0)), ((0,0,-1),(0,1,0),(1,0,0)), ((0,0,-1),(0,-1,0),(-1,0,0))]

theorem rot24_orthogonal : ∀ m ∈ rot24, mul (transpose m) m = ident ∧ det m = 1 := by decide +kernel
theorem rot24_rightHanded : ∀ m ∈ rot24, RightHanded m := by decide +kernel

section
variable {R : Type} [CommRing R]

/-- an integer matrix acting on vectors over `R`: `Equiv.act` is this at ℝ by unfolding, `apply` at ℤ up to the change of
    structure from `V3 ℤ` to `P3` -/
def actOn (m : Mat) (v : V3 R) : V3 R :=
  ⟨(m.1.1 : R)*v.x + (m.1.2.1 : R)*v.y + (m.1.2.2 : R)*v.z,
   (m.2.1.1 : R)*v.x + (m.2.1.2.1 : R)*v.y + (m.2.1.2.2 : R)*v.z,
   (m.2.2.1 : R)*v.x + (m.2.2.2.1 : R)*v.y + (m.2.2.2.2 : R)*v.z⟩

theorem actOn_sub (m : Mat) (a b : V3 R) : actOn m (Prot.vsub a b) = Prot.vsub (actOn m a) (actOn m b) := by
  simp only [actOn, Prot.vsub, V3.mk.injEq]; exact ⟨by ring, by ring, by ring⟩

variable [CharZero R]

theorem actOn_dot (m : Mat) (h : mul (transpose m) m = ident) (a b : V3 R) : Prot.dot (actOn m a) (actOn m b) = Prot.dot a b := by
  obtain ⟨⟨a11, a12, a13⟩, ⟨a21, a22, a23⟩, ⟨a31, a32, a33⟩⟩ := m
  -- the nine integer equations of `h`, read in `R`
  simp only [mul, transpose, ident, Prod.mk.injEq, ← @Int.cast_inj R] at h
  push_cast at h
  obtain ⟨⟨h11, h12, h13⟩, ⟨-, h22, h23⟩, ⟨-, -, h33⟩⟩ := h
  simp only [actOn, Prot.dot]
  linear_combination (a.x*b.x) * h11 + (a.y*b.y) * h22 + (a.z*b.z) * h33 + (a.x*b.y + a.y*b.x) * h12
    + (a.x*b.z + a.z*b.x) * h13 + (a.y*b.z + a.z*b.y) * h23

/-- a matrix whose rows are a right-handed frame commutes with the cross product: componentwise this is Lagrange's identity
    `(p × q)·(a × b) = (p·a)(q·b) − (q·a)(p·b)` for two rows `p`, `q` -/
theorem actOn_cross (m : Mat) (h : RightHanded m) (a b : V3 R) : Prot.cross (actOn m a) (actOn m b) = actOn m (Prot.cross a b) := by
  obtain ⟨⟨a11, a12, a13⟩, ⟨a21, a22, a23⟩, ⟨a31, a32, a33⟩⟩ := m
  simp only [RightHanded, vec, cross, P3.mk.injEq, ← @Int.cast_inj R] at h
  push_cast at h
  obtain ⟨⟨h1x, h1y, h1z⟩, ⟨h2x, h2y, h2z⟩, ⟨h3x, h3y, h3z⟩⟩ := h
  simp only [actOn, Prot.cross, V3.mk.injEq]
  refine ⟨?_, ?_, ?_⟩
  · linear_combination (a.y*b.z - a.z*b.y) * h1x + (a.z*b.x - a.x*b.z) * h1y + (a.x*b.y - a.y*b.x) * h1z
  · linear_combination (a.y*b.z - a.z*b.y) * h2x + (a.z*b.x - a.x*b.z) * h2y + (a.x*b.y - a.y*b.x) * h2z
  · linear_combination (a.y*b.z - a.z*b.y) * h3x + (a.z*b.x - a.x*b.z) * h3y + (a.x*b.y - a.y*b.x) * h3z
end

/-! at `R = ℤ` the cast is the identity and `actOn`, `Prot.dot`, `Prot.cross` unfold to `apply`, `dot`, `cross` -/
theorem dot_apply (m : Mat) (h : mul (transpose m) m = ident) (a b : P3) : dot (apply m a) (apply m b) = dot a b :=
  actOn_dot m h ⟨a.x, a.y, a.z⟩ ⟨b.x, b.y, b.z⟩

theorem cross_apply (m : Mat) (h : RightHanded m) (a b : P3) : cross (apply m a) (apply m b) = apply m (cross a b) :=
  congrArg (fun v : V3 ℤ => (⟨v.x, v.y, v.z⟩ : P3)) (actOn_cross m h ⟨a.x, a.y, a.z⟩ ⟨b.x, b.y, b.z⟩)

theorem apply_sub (m : Mat) (a b : P3) : apply m (sub a b) = sub (apply m a) (apply m b) :=
  congrArg (fun v : V3 ℤ => (⟨v.x, v.y, v.z⟩ : P3)) (actOn_sub m ⟨a.x, a.y, a.z⟩ ⟨b.x, b.y, b.z⟩)

theorem sqDist_eq_dot (a b : P3) : sqDist a b = dot (sub b a) (sub b a) := rfl

/-- **Squared distances are invariant** under a grid translation followed by any orthogonal integer matrix (the 24 rotations
    and their mirror images). -/
theorem sqDist_invariant (m : Mat) (h : mul (transpose m) m = ident) (t a b : P3) :
    sqDist (apply m (add a t)) (apply m (add b t)) = sqDist a b := by
  rw [sqDist_eq_dot, ← apply_sub, dot_apply m h, sqDist_eq_dot]
  simp [sub, add, dot]

end Propka.Geom
