import Propka.Model.Params
import Propka.Proofs.Basics
/-! Helper lemmas for C18: every write into the two matrices is mirrored. -/
namespace Propka.Params

def Symm {β : Type} (t : Tbl β) : Prop := ∀ a b, t a b = t b a

/-- what the mirrored write `d[a][b] = v; d[b][a] = v` leaves in the table -/
theorem set_mirror {β : Type} (t : Tbl β) (a b : String) (v : β) (x y : String) :
    set (set t a b v) b a v x y = if (a == x && b == y) || (a == y && b == x) then some v else t x y := by
  unfold set; grind

theorem set_both_symm {β : Type} (t : Tbl β) (h : Symm t) (a b : String) (v : β) :
    Symm (set (set t a b v) b a v) := fun x y => by
  rw [set_mirror, set_mirror, Bool.or_comm, h x y]

theorem IMat.add_symm (m m' : IMat) (words : List String) (h : Symm m.tbl)
    (hadd : m.add words = .ok m') : Symm m'.tbl := by
  unfold IMat.add at hadd
  cases words with
  | nil => cases hadd
  | cons new vals =>
    simp only at hadd
    split at hadd
    · cases hadd
    · cases hadd
      exact List.foldlRecOn _ _ h fun t ht gv _ => set_both_symm t ht gv.1 new gv.2

theorem PMat.apply_symm {β : Type} (m : PMat β) (op : POp β) (h : Symm m.tbl) : Symm (m.apply op).tbl := by
  cases op with
  | setDefault v => exact h
  | pair g1 g2 v => exact set_both_symm m.tbl h g1 g2 v

theorem PMat.get_symm {β : Type} (m : PMat β) (h : Symm m.tbl) (a b : String) : m.get a b = m.get b a :=
  congrArg (·.getD m.default) (h a b)

def mentions {β : Type} (a b : String) : POp β → Bool
  | .setDefault _ => false
  | .pair g1 g2 _ => (g1 == a && g2 == b) || (g1 == b && g2 == a)

theorem PMat.apply_none {β : Type} (m : PMat β) (op : POp β) (a b : String) (hm : m.tbl a b = none)
    (hop : mentions a b op = false) : (m.apply op).tbl a b = none := by
  cases op with
  | setDefault v => exact hm
  | pair g1 g2 v => exact (set_mirror ..).trans ((if_neg (ne_true_of_eq_false hop)).trans hm)

theorem parseLine_symm {ν : Type} [HalfPow ν] (num isInt : String → Option ν) (kinds : List (String × String))
    (sq : List String) (st st' : PState ν) (line : List Char)
    (h : Symm st.im.tbl ∧ Symm st.pm.tbl) (hp : parseLine num isInt kinds sq st line = .ok st') :
    Symm st'.im.tbl ∧ Symm st'.pm.tbl := by
  unfold parseLine at hp
  simp only at hp
  split at hp
  · cases hp; exact h
  · rename_i name args _
    split at hp
    · -- matrix
      cases hadd : st.im.add args with
      | error e => simp [hadd, Except.map] at hp
      | ok im =>
        simp [hadd, Except.map] at hp; cases hp
        exact ⟨IMat.add_symm _ _ _ h.1 hadd, h.2⟩
    · -- pmatrix
      cases hop : PMat.parseOp num args with
      | error e => simp [hop, Except.map] at hp
      | ok op =>
        simp [hop, Except.map] at hp; cases hp
        exact ⟨h.1, PMat.apply_symm _ _ h.2⟩
    -- the other keywords write neither matrix: the state they return, if any, has the two it had
    all_goals (repeat (split at hp)) <;> first | (cases hp; exact h) | cases hp

end Propka.Params
