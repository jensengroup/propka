/-! Facts that are not about PROPKA (core Lean only): tables read with `getD` and written with `setIfInBounds`; a
    symmetric relation that gains a pair and its mirror image; selections from `List.range`, `flatMap` / `any` of functions that
    agree on the members; a list read back through its indices; what an accepted `foldlM` keeps; the head of a list, with default. -/
namespace Propka

theorem getD_setIfInBounds {β : Type} (a : Array β) (g : Nat) (x d : β) (i : Nat) (hg : g < a.size) :
    (a.setIfInBounds g x).getD i d = if i = g then x else a.getD i d := by
  simp only [Array.getD_eq_getD_getElem?, Array.getElem?_setIfInBounds]
  by_cases h : g = i
  · subst h; simp [hg]
  · simp [h, Ne.symm h]

theorem forall_getD_setIfInBounds {β : Type} {P : Nat → β → Prop} {a : Array β} {d : β} {n : Nat} (hn : a.size = n)
    (h : ∀ k, k < n → P k (a.getD k d)) (i : Nat) (x : β) (hx : i < n → P i x) :
    (a.setIfInBounds i x).size = n ∧ ∀ k, k < n → P k ((a.setIfInBounds i x).getD k d) := by
  refine ⟨Array.size_setIfInBounds.trans hn, fun k hk => ?_⟩
  by_cases hi : i < a.size
  · rw [getD_setIfInBounds a i x d k hi]
    split
    · next e => exact e ▸ hx (hn ▸ hi)
    · exact h k hk
  · rw [Array.setIfInBounds, dif_neg hi]; exact h k hk

/-- adding a pair and its mirror image to a symmetric relation leaves it symmetric: the step of every coupling bookkeeping -/
theorem symm_add_pair {ι : Type} {R R' : ι → ι → Prop} (g h : ι) (hR : ∀ i j, R i j ↔ R j i)
    (h' : ∀ i j, R' i j ↔ R i j ∨ (i = g ∧ j = h) ∨ (i = h ∧ j = g)) (i j : ι) : R' i j ↔ R' j i := by
  rw [h', h', hR i j, and_comm (a := i = g), and_comm (a := i = h), or_comm (a := j = h ∧ i = g)]

theorem filter_range_le {m n : Nat} (hmn : m ≤ n) {f f' : Nat → Bool} (hf : ∀ i, i < m → f' i = f i) :
    ∃ new, (List.range n).filter f' = (List.range m).filter f ++ new ∧ ∀ i ∈ new, m ≤ i ∧ f' i = true := by
  obtain ⟨k, rfl⟩ := Nat.exists_eq_add_of_le hmn
  refine ⟨((List.range k).map (m + ·)).filter f', ?_, fun i hi => ?_⟩
  · rw [List.range_add, List.filter_append, List.filter_congr fun i hi => hf i (List.mem_range.mp hi)]
  · obtain ⟨hi, hfi⟩ := List.mem_filter.mp hi
    obtain ⟨j, _, rfl⟩ := List.mem_map.mp hi
    exact ⟨Nat.le_add_right _ _, hfi⟩

theorem flatMap_congr_mem {β γ : Type} {l : List β} {f g : β → List γ} (h : ∀ a ∈ l, f a = g a) : l.flatMap f = l.flatMap g := by
  rw [List.flatMap_def, List.flatMap_def, List.map_congr_left h]

theorem any_congr_mem {β : Type} (l : List β) (f g : β → Bool) (h : ∀ x ∈ l, f x = g x) : l.any f = l.any g := by
  rw [List.any_eq, List.any_eq]
  exact decide_eq_decide.mpr (exists_congr fun x => and_congr_right fun hx => by rw [h x hx])

theorem getElem?_range_filterMap {β : Type} (l : List β) (n : Nat) (h : l.length ≤ n) :
    (List.range n).filterMap (fun i => l[i]?) = l := by
  induction l generalizing n with
  | nil => simp
  | cons a l ih =>
    obtain ⟨n, rfl⟩ := Nat.exists_eq_add_one_of_ne_zero (Nat.ne_zero_of_lt h)
    rw [List.range_succ_eq_map, List.filterMap_cons, List.filterMap_map]
    simpa [Function.comp_def] using ih n (Nat.le_of_succ_le_succ h)

theorem foldlM_ok_inv {ε σ β : Type} (Inv : σ → Prop) (f : σ → β → Except ε σ)
    (hf : ∀ s b s', Inv s → f s b = .ok s' → Inv s') :
    ∀ (l : List β) (s s' : σ), Inv s → l.foldlM f s = .ok s' → Inv s' := by
  intro l
  induction l with
  | nil => intro s s' h0 h; cases h; exact h0
  | cons b l ih =>
    intro s s' h0 h
    rw [List.foldlM_cons] at h
    cases hb : f s b with
    | error e => rw [hb] at h; cases h
    | ok s1 => rw [hb] at h; exact ih s1 s' (hf s b s1 h0 hb) h

theorem headD_of_forall {β : Type} {P : β → Prop} {l : List β} {d : β} (hl : ∀ x ∈ l, P x) (hd : l = [] → P d) : P (l.headD d) := by
  cases l with
  | nil => exact hd rfl
  | cons x xs => exact hl x List.mem_cons_self
end Propka
