import Propka.Model.Dets
import Propka.Proofs.Fold
import Mathlib.Tactic.Linarith
import Mathlib.Tactic.Ring
/-! Determinant sums, `calculate_total_pka`, `transfer` applied twice, and what averaging does to an additive reading
    (C02, C08, C15; exact arithmetic where numbers enter). -/
namespace Propka.Dets

theorem dsum_eq {M : Type} [AddMonoid M] (z : M) (ds : List (Det M)) : dsum z ds = z + (ds.map (·.value)).sum :=
  foldl_additive id _ (fun _ _ => rfl) ds z

def vsum (ds : List (Det ℚ)) : ℚ := (ds.map (·.value)).sum

theorem vsum_perm (a b : List (Det ℚ)) (h : a.Perm b) : vsum a = vsum b := by
  unfold vsum; exact (h.map _).sum_eq

theorem vsum_append (a b : List (Det ℚ)) : vsum (a ++ b) = vsum a + vsum b := by
  unfold vsum; simp

theorem vsum_relabel (l : String) (ds : List (Det ℚ)) : vsum (ds.map (relabel l)) = vsum ds := by
  unfold vsum; rw [List.map_map]; rfl

/-- a group whose pKa is up to date (as after `calculate_total_pka`) -/
def UpToDate (fixed : ℚ) (g : GRec ℚ) : Prop := (calculateTotal fixed g).pka = g.pka

/-- `calculate_total_pka` writes the pKa and nothing else -/
theorem calculateTotal_eq (fixed : ℚ) (g : GRec ℚ) : calculateTotal fixed g =
    { g with pka := if g.bridged then fixed else g.model + g.evol + g.eloc + vsum g.sc + vsum g.bb + vsum g.cb } := by
  unfold calculateTotal
  split
  · rfl
  · simp only [dsum_eq]; rfl

theorem total_uptodate (fixed : ℚ) (g : GRec ℚ) : UpToDate fixed (calculateTotal fixed g) := by
  unfold UpToDate; simp only [calculateTotal_eq]

theorem filter_split {α : Type} (xs : List (Det α)) (l : String) :
    (xs.filter (fun d => d.label ≠ l) ++ xs.filter (fun d => d.label = l)).Perm xs := by
  simpa using List.filter_append_perm (fun d => decide (d.label ≠ l)) xs

theorem relabel_back {α : Type} (xs : List (Det α)) (l l' : String) (h : ∀ d ∈ xs, d.label = l) :
    (xs.map (relabel l')).map (relabel l) = xs := by
  rw [List.map_map]
  exact (List.map_congr_left fun d hd => by rw [← h d hd]; rfl).trans (List.map_id xs)

theorem filter_eq_map_relabel {α : Type} (xs : List (Det α)) (l : String) :
    (xs.map (relabel l)).filter (fun d => d.label = l) = xs.map (relabel l) :=
  List.filter_eq_self.mpr (List.forall_mem_map.mpr fun _ _ => decide_eq_true rfl)

theorem filter_ne_map_relabel {α : Type} (xs : List (Det α)) (l : String) :
    (xs.map (relabel l)).filter (fun d => d.label ≠ l) = [] :=
  List.filter_eq_nil_iff.mpr (List.forall_mem_map.mpr fun _ _ => by simp [relabel])

theorem transfer_twice_fst {α : Type} (d1 d2 : List (Det α)) (l1 l2 : String) :
    (transfer (transfer d1 d2 l1 l2).1 (transfer d1 d2 l1 l2).2 l1 l2).1.Perm d1 := by
  have h0 : d2.filter (fun a => decide (a.label = l1) && decide (a.label ≠ l1)) = [] := by simp
  -- what went over to the other list comes back under its old label; what came from there goes back
  simp only [transfer, List.filter_append, List.filter_filter, filter_ne_map_relabel, filter_eq_map_relabel, List.append_nil, h0,
    List.nil_append, Bool.and_self]
  rw [relabel_back _ l2 l1 fun d hd => of_decide_eq_true (List.mem_filter.mp hd).2]
  exact filter_split d1 l2

theorem transfer_total (d1 d2 : List (Det ℚ)) (l1 l2 : String) :
    vsum (transfer d1 d2 l1 l2).1 + vsum (transfer d1 d2 l1 l2).2 = vsum d1 + vsum d2 := by
  simp only [transfer, vsum_append, vsum_relabel]
  have a := vsum_perm _ _ (filter_split d1 l2)
  have b := vsum_perm _ _ (filter_split d2 l1)
  rw [vsum_append] at a b
  linarith

/-- The determinant values weighted by partner.  `add_determinant` merges only determinants towards one partner, so it,
    `__iadd__` and `__truediv__` act linearly on every such sum; `vsum` (weight 1) and the per-partner sums of C08 (weight 1
    on one partner, 0 on the others) are the two the properties speak of. -/
def wsum (w : String → ℚ) (ds : List (Det ℚ)) : ℚ := (ds.map fun d => w d.grp * d.value).sum

theorem vsum_eq_wsum (ds : List (Det ℚ)) : vsum ds = wsum (fun _ => 1) ds := by
  simp only [vsum, wsum, one_mul]

theorem wsum_addDet (w : String → ℚ) (ds : List (Det ℚ)) (d : Det ℚ) : wsum w (addDet ds d) = wsum w ds + w d.grp * d.value := by
  induction ds with
  | nil => simp [addDet, wsum]
  | cons x xs ih =>
    unfold addDet
    split
    · next h => simp only [wsum, List.map_cons, List.sum_cons, h]; ring
    · simp only [wsum, List.map_cons, List.sum_cons] at ih ⊢; rw [ih, add_assoc]

theorem wsum_foldl_addDet (w : String → ℚ) (acc ds : List (Det ℚ)) : wsum w (ds.foldl addDet acc) = wsum w acc + wsum w ds :=
  foldl_additive (wsum w) _ (wsum_addDet w) ds acc

theorem wsum_scale (w : String → ℚ) (ds : List (Det ℚ)) (n : ℚ) : wsum w (scaleDets ds n) = wsum w ds / n := by
  induction ds with
  | nil => simp [scaleDets, wsum]
  | cons d ds ih => simp only [wsum, scaleDets, List.map_cons, List.sum_cons] at ih ⊢; rw [ih]; ring

/-- **What averaging does to anything it can be asked.**  A reading of the accumulator that is 0 on the fresh clone, that
    `__iadd__` increases by the record's reading and that `__truediv__` divides is, on the average, the mean of the records'
    readings.  The fields, the weighted determinant sums and their linear combinations are such readings. -/
theorem average_reading (L : Acc ℚ → ℚ) (L' : GRec ℚ → ℚ) (h0 : L ⟨0, 0, 0, [], [], []⟩ = 0)
    (hadd : ∀ a g, L (iadd a g) = L a + L' g) (hdiv : ∀ a n, L (divAcc a n) = L a / n) (found : List (GRec ℚ)) :
    L (average 0 found) = (found.map L').sum / found.length := by
  rw [average, hdiv, foldl_additive L L' hadd, h0, zero_add]

end Propka.Dets
