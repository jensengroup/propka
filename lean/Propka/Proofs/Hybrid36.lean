import Propka.Model.Hybrid36
/-! For C19 (core Lean only).  An encoding in any digit alphabet is seen by `decodeBody` through its leading digit, the length of
    its tail, the character test of the segment and its value (`enc_view`); the three segments differ in the alphabet and the
    offset only. -/
namespace Propka.H36

theorem splitSign_of_ne (c : Char) (r : Str) (h : c ≠ '-') : splitSign (c :: r) = (1, c :: r) := by
  unfold splitSign
  split
  · rename_i r' heq; cases heq; exact absurd rfl h
  · rfl

/-- `decodeBody` on a non-empty string is a chain of three gates of this shape. -/
theorem gate_ok {g r : Prop} [Decidable g] [Decidable r] {x E : Res} {n : Int}
    (h : (if g then (if r then x else .valueError) else E) = .ok n) : (g ∧ r) ∨ E = .ok n := by
  split at h
  · split at h
    · exact .inl ⟨‹_›, ‹_›⟩
    · cases h
  · exact .inr h

theorem all_false {p : Char → Bool} {l : Str} (h : ∃ ch ∈ l, p ch = false) : l.all p = false := by
  simpa using h

theorem isSome_ite_some {α} {p : Prop} [Decidable p] {b : α} {o : Option α} :
    (if p then some b else o).isSome = true ↔ p ∨ o.isSome = true := by
  split <;> simp [*]

theorem digits_length (b w m : Nat) : (digits b w m).length = w := by
  induction w generalizing m with
  | zero => rfl
  | succ w ih => simp [digits, ih]

theorem digits_lt (b : Nat) (hb : 0 < b) (w m : Nat) : ∀ d ∈ digits b w m, d < b := by
  induction w generalizing m with
  | zero => simp [digits]
  | succ w ih => exact List.forall_mem_append.mpr ⟨ih _, List.forall_mem_singleton.mpr (Nat.mod_lt _ hb)⟩

theorem digits_cons (b : Nat) (hb : 0 < b) (w m : Nat) (hm : m < b ^ (w+1)) :
    ∃ ds, digits b (w+1) m = m / b ^ w :: ds := by
  induction w generalizing m with
  | zero =>
    exact ⟨[], by rw [digits, digits, List.nil_append, Nat.pow_zero, Nat.div_one, Nat.mod_eq_of_lt (by simpa using hm)]⟩
  | succ w ih =>
    obtain ⟨ds, h⟩ := ih (m / b) ((Nat.div_lt_iff_lt_mul hb).mpr hm)
    exact ⟨ds ++ [m % b], by rw [digits, h, List.cons_append, Nat.div_div_eq_div_mul, Nat.pow_succ']⟩

theorem parse_digits_gen (b : Nat) (dig : Nat → Char) (hval : ∀ v, v < b → val (dig v) = v) (hb : 0 < b)
    (w m : Nat) (acc : Nat) (hm : m < b ^ w) :
    ((digits b w m).map dig).foldl (fun acc c => acc * b + val c) acc = acc * b ^ w + m := by
  induction w generalizing m acc with
  | zero => simp [digits] at *; omega
  | succ w ih =>
    simp only [digits, List.map_append, List.map_cons, List.map_nil, List.foldl_append, List.foldl_cons, List.foldl_nil]
    rw [ih (m / b) acc ((Nat.div_lt_iff_lt_mul hb).mpr hm), hval _ (Nat.mod_lt _ hb), Nat.pow_succ, Nat.add_mul,
      Nat.add_assoc, Nat.mul_assoc, Nat.div_add_mod']

theorem val_decDigit : ∀ v, v < 10 → val (decDigit v) = v := by decide +kernel
theorem val_upperDigit : ∀ v, v < 36 → val (upperDigit v) = v := by decide +kernel
theorem val_lowerDigit : ∀ v, v < 36 → val (lowerDigit v) = v := by decide +kernel
theorem dec_ok : ∀ v, v < 10 → isDigit (decDigit v) = true ∧ isSpace (decDigit v) = false ∧ decDigit v ≠ '-' := by decide +kernel
theorem upper_ok : ∀ v, v < 36 → (isUpper (upperDigit v) || isDigit (upperDigit v)) = true ∧ isSpace (upperDigit v) = false ∧ upperDigit v ≠ '-' := by decide +kernel
theorem lower_ok : ∀ v, v < 36 → (isLower (lowerDigit v) || isDigit (lowerDigit v)) = true ∧ isSpace (lowerDigit v) = false ∧ lowerDigit v ≠ '-' := by decide +kernel
theorem upper_lead : ∀ v, v < 36 → 10 ≤ v → isUpper (upperDigit v) = true ∧ isDigit (upperDigit v) = false := by decide +kernel
theorem lower_lead : ∀ v, v < 36 → 10 ≤ v → isLower (lowerDigit v) = true ∧ isUpper (lowerDigit v) = false ∧ isDigit (lowerDigit v) = false := by decide +kernel

theorem dropWhile_none (s : Str) (h : ∀ c ∈ s, isSpace c = false) : s.dropWhile isSpace = s := by
  cases s with
  | nil => rfl
  | cons c cs => exact List.dropWhile_cons_of_neg (ne_true_of_eq_false (h c List.mem_cons_self))

theorem strip_nospace (s : Str) (h : ∀ c ∈ s, isSpace c = false) : strip s = s := by
  unfold strip
  rw [dropWhile_none s h, dropWhile_none s.reverse fun c hc => h c (List.mem_reverse.mp hc), List.reverse_reverse]

theorem dropWhile_spaces (k : Nat) (s : Str) :
    (List.replicate k ' ' ++ s).dropWhile isSpace = s.dropWhile isSpace :=
  List.dropWhile_append_of_pos fun _ h => List.eq_of_mem_replicate h ▸ rfl

theorem strip_pad_left (k : Nat) (s : Str) : strip (List.replicate k ' ' ++ s) = strip s := by
  unfold strip; rw [dropWhile_spaces]

theorem strip_pad_right (j : Nat) (s : Str) : strip (s ++ List.replicate j ' ') = strip s := by
  unfold strip
  rw [List.dropWhile_append]
  split
  · rename_i h
    rw [List.isEmpty_iff.mp h, ← List.append_nil (List.replicate j ' '), dropWhile_spaces]; rfl
  · rw [List.reverse_append, List.reverse_replicate, dropWhile_spaces]

theorem decode_unsigned (s : Str) (h : ∀ x ∈ s, isSpace x = false ∧ x ≠ '-') : decode s = decodeBody 1 s := by
  unfold decode
  rw [strip_nospace s fun x hx => (h x hx).1]
  cases s with
  | nil => rfl
  | cons c r => rw [splitSign_of_ne c r (h c (List.mem_cons_self ..)).2]

theorem enc_length (dig : Nat → Char) (b w m : Nat) : (enc dig b w m).length = w := by
  simp [enc, digits_length]

theorem enc_forall (dig : Nat → Char) (b : Nat) (hb : 0 < b) (p : Char → Prop) (hp : ∀ v, v < b → p (dig v)) (w m : Nat) :
    ∀ c ∈ enc dig b w m, p c :=
  List.forall_mem_map.mpr fun d hd => hp d (digits_lt b hb _ _ d hd)

theorem parseBase_enc (b : Nat) (dig : Nat → Char) (hval : ∀ v, v < b → val (dig v) = v) (hb : 0 < b) (w m : Nat)
    (hm : m < b ^ w) : parseBase b (enc dig b w m) = m := by
  unfold parseBase enc
  rw [parse_digits_gen b dig hval hb w m 0 hm]; simp

/-- All that `decodeBody` reads of an encoding: the leading digit, and of the tail its length, that its
    characters pass the test `p` of the segment, and the value of the whole. -/
theorem enc_view (dig : Nat → Char) (b : Nat) (hb : 0 < b) (hval : ∀ v, v < b → val (dig v) = v)
    (p : Char → Bool) (hp : ∀ v, v < b → p (dig v) = true) (w m : Nat) (hm : m < b ^ (w+1)) :
    ∃ rest, enc dig b (w+1) m = dig (m / b ^ w) :: rest ∧ m / b ^ w < b ∧ rest.length = w ∧ rest.all p = true ∧
      parseBase b (dig (m / b ^ w) :: rest) = m := by
  obtain ⟨ds, hd⟩ := digits_cons b hb w m hm
  have hlen := enc_length dig b (w+1) m
  have hall := enc_forall dig b hb (p · = true) hp (w+1) m
  have hparse := parseBase_enc b dig hval hb (w+1) m hm
  unfold enc at *
  rw [hd] at hlen hall hparse ⊢
  exact ⟨_, rfl, Nat.div_lt_of_lt_mul hm, Nat.succ.inj hlen,
    List.all_eq_true.mpr (List.forall_mem_cons.mp hall).2, hparse⟩

/-- decoding the upper-case encoding of m (w+1 base-36 digits, leading digit a letter) -/
theorem decode_upper (w m : Nat) (hlo : 10 * 36 ^ w ≤ m) (hhi : m < 36 ^ (w+1)) :
    decode (enc upperDigit 36 (w+1) m) = .ok ((m : Int) - (10 * 36 ^ w : Nat) + (10 ^ (w+1) : Nat)) := by
  obtain ⟨rest, hcr, hv, hlen, hall, hparse⟩ :=
    enc_view upperDigit 36 (by decide) val_upperDigit (fun ch => isUpper ch || isDigit ch) (fun v hv => (upper_ok v hv).1) w m hhi
  obtain ⟨hU, hD⟩ := upper_lead _ hv ((Nat.le_div_iff_mul_le (Nat.pow_pos (by decide))).mpr hlo)
  rw [decode_unsigned _ (enc_forall _ 36 (by decide) _ (fun v hv => (upper_ok v hv).2) _ m), hcr]
  simp only [decodeBody, hD, hU, hall, hparse, hlen, Bool.false_eq_true, if_false, if_true, List.length_cons,
    Nat.add_sub_cancel, Int.one_mul]

/-- decoding the lower-case encoding of m (w+1 base-36 digits, leading digit a letter) -/
theorem decode_lower (w m : Nat) (hlo : 10 * 36 ^ w ≤ m) (hhi : m < 36 ^ (w+1)) :
    decode (enc lowerDigit 36 (w+1) m) = .ok ((m : Int) + (16 * 36 ^ w : Nat) + (10 ^ (w+1) : Nat)) := by
  obtain ⟨rest, hcr, hv, hlen, hall, hparse⟩ :=
    enc_view lowerDigit 36 (by decide) val_lowerDigit (fun ch => isLower ch || isDigit ch) (fun v hv => (lower_ok v hv).1) w m hhi
  obtain ⟨hL, hU, hD⟩ := lower_lead _ hv ((Nat.le_div_iff_mul_le (Nat.pow_pos (by decide))).mpr hlo)
  rw [decode_unsigned _ (enc_forall _ 36 (by decide) _ (fun v hv => (lower_ok v hv).2) _ m), hcr]
  simp only [decodeBody, hD, hU, hL, hall, hparse, hlen, Bool.false_eq_true, if_false, if_true, List.length_cons,
    Nat.add_sub_cancel, Int.one_mul]

theorem decLen_pos (m : Nat) : 0 < decLen m := by
  unfold decLen; split <;> omega

theorem decLen_le_iff (m w : Nat) : decLen m ≤ w + 1 ↔ m < 10 ^ (w+1) := by
  induction w generalizing m with
  | zero => have := decLen_pos (m / 10); unfold decLen; split <;> omega
  | succ w ih =>
    have := ih (m / 10)
    have := Nat.pow_pos (n := w+1) (show 0 < 10 by decide)
    unfold decLen; rw [Nat.pow_succ (m := w+1)]; split <;> omega

theorem decLen_eq_succ (m : Nat) : ∃ w, decLen m = w + 1 ∧ m < 10 ^ (w+1) := by
  refine ⟨decLen m - 1, by have := decLen_pos m; omega, (decLen_le_iff _ _).mp (by omega)⟩

theorem decStr_all (m : Nat) : ∀ c ∈ decStr m, isDigit c = true ∧ isSpace c = false ∧ c ≠ '-' :=
  enc_forall decDigit 10 (by decide) _ dec_ok _ m

theorem decodeBody_decStr (sign : Int) (m : Nat) : decodeBody sign (decStr m) = .ok (sign * m) := by
  obtain ⟨w, hw, hm⟩ := decLen_eq_succ m
  obtain ⟨rest, hcr, hv, -, hall, hparse⟩ :=
    enc_view decDigit 10 (by decide) val_decDigit isDigit (fun v hv => (dec_ok v hv).1) w m hm
  rw [decStr, hw, hcr]
  simp only [decodeBody, (dec_ok _ hv).1, hall, hparse, if_true]

theorem decode_decStr (m : Nat) : decode (decStr m) = .ok m := by
  rw [decode_unsigned _ fun x hx => (decStr_all m x hx).2, decodeBody_decStr, Int.one_mul]

theorem decode_neg_decStr (m : Nat) : decode ('-' :: decStr m) = .ok (-(m : Int)) := by
  unfold decode
  rw [strip_nospace _ (List.forall_mem_cons.mpr ⟨rfl, fun c hc => (decStr_all m c hc).2.1⟩)]
  simp only [splitSign, decodeBody_decStr, Int.neg_one_mul]

end Propka.H36
