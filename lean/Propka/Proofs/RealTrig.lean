import Propka.Model.Scalar
import Mathlib.Analysis.SpecialFunctions.Trigonometric.Inverse
/-! The real numbers as a scalar of the generic models: Mathlib's functions for the primitives of `Trig`. -/
namespace Propka

noncomputable instance instTrigReal : Trig ℝ := ⟨Real.sin, Real.cos, Real.arcsin, Real.arccos, Real.sqrt, Real.pi, fun x => |x|⟩

end Propka
