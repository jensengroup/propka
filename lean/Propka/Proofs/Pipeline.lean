import Propka.Model.Pipeline
import Propka.Proofs.Bonds
/-! Refinement of the bonding phase of the set-up pipeline (`Pipe.bondAll`: a state machine on the atoms' bond lists)
    to the list-of-pairs model of C11 (`Bonds.findBonds`), whose theorem `boxes_eq_pairwise` says that the bonds are those
    of the pairwise criterion.  Both models add a bond by `make_bond` of the function model (`Bonds.appendTo` twice):
    `adj_addBond`, `Bonds.adjOf_append`. -/
namespace Propka.Pipe

section
variable {α : Type} [OfNat α 0]

theorem at'_modify (s : St α) (k i : Nat) (f : PAtom α → PAtom α) :
    at' (s.modify k f) i = if k = i ∧ i < s.size then f (at' s i) else at' s i := by
  unfold at'
  rw [Array.getD_eq_getD_getElem?, Array.getD_eq_getD_getElem?, Array.getElem?_modify]
  by_cases hk : k = i
  · by_cases hi : i < s.size <;> simp [hk, hi]
  · simp [hk]

/-- the bond list of atom `i` -/
def adj (s : St α) (i : Nat) : List Nat := (at' s i).bonded

theorem adj_addBond (s : St α) (a b : Nat) (ha : a < s.size) (hb : b < s.size) (hab : a ≠ b) (hnb : b ∉ adj s a) :
    adj (addBond s a b) = Bonds.appendTo (Bonds.appendTo (adj s) b a) a b := by
  funext i
  have hm : b ∉ (at' s a).bonded := hnb
  unfold addBond adj Bonds.appendTo
  rw [at'_modify, at'_modify, Array.size_modify]
  by_cases hia : i = a
  · subst hia; simp [ha, hab, Ne.symm hab, hm]
  · by_cases hib : i = b
    · subst hib; simp [hb, hia, Ne.symm hia]
    · simp [hia, hib, Ne.symm hia, Ne.symm hib]

/-- the relation between the two models: same size and geometry as at the start, bond lists = adjacency of the pair list -/
structure Refines (s0 s : St α) (ps : List (Nat × Nat)) : Prop where
  size : s.size = s0.size
  geo : ∀ i, batom s i = batom s0 i
  adjEq : ∀ i, adj s i = Bonds.adjOf ps i

theorem batom_modify (s : St α) (k : Nat) (f : PAtom α → PAtom α) (hf : ∀ x, (f x).pos = x.pos ∧ (f x).elem = x.elem)
    (i : Nat) : batom (s.modify k f) i = batom s i := by
  unfold batom
  rw [at'_modify]
  split
  · simp only [hf]
  · rfl

theorem adj_modify (s : St α) (k : Nat) (f : PAtom α → PAtom α) (hf : ∀ x, (f x).bonded = x.bonded)
    (i : Nat) : adj (s.modify k f) i = adj s i := by
  unfold adj
  rw [at'_modify]
  split
  · exact hf _
  · rfl

theorem refines_addBond {s0 s : St α} {ps : List (Nat × Nat)} (h : Refines s0 s ps) (a b : Nat)
    (ha : a < s0.size) (hb : b < s0.size) (hab : a ≠ b) (hnb : ¬ Bonds.bondedIn ps a b) :
    Refines s0 (addBond s a b) (ps ++ [(a, b)]) where
  size := by simp [addBond, h.size]
  geo i := by
    unfold addBond
    rw [batom_modify, batom_modify, h.geo]
    · exact fun _ => ⟨rfl, rfl⟩
    · exact fun x => by split <;> exact ⟨rfl, rfl⟩
  adjEq i := by
    rw [adj_addBond s a b (h.size ▸ ha) (h.size ▸ hb) hab (by rw [h.adjEq a, Bonds.mem_adjOf]; exact hnb),
      Bonds.adjOf_append ps a b hab, funext h.adjEq]

theorem refines_flagBridge {s0 s : St α} {ps : List (Nat × Nat)} (h : Refines s0 s ps) (a b : Nat) :
    Refines s0 (flagBridge s a b) ps where
  size := by simp [flagBridge, h.size]
  geo i := by
    unfold flagBridge
    rw [batom_modify, batom_modify, h.geo] <;> exact fun _ => ⟨rfl, rfl⟩
  adjEq i := by
    unfold flagBridge
    rw [adj_modify, adj_modify, h.adjEq] <;> exact fun _ => rfl

end

variable {α : Type} [Add α] [Sub α] [Mul α] [OfNat α 0] [LT α] [DecidableLT α] [Max α] [Bonds.CellIdx α]

/-- one call of `_find_bonds_for_atoms` in the two models -/
theorem bondStep_refines (P : PP α) (s0 s : St α) (ps : List (Nat × Nat)) (p : Nat × Nat) (h : Refines s0 s ps)
    (h1 : p.1 < s0.size) (h2 : p.2 < s0.size) (hne : p.1 ≠ p.2) :
    Refines s0 (bondStep P s p)
      (Bonds.tryBond (fun i j => Bonds.crit P.bond (batom s0 i) (batom s0 j)) ps p) := by
  obtain ⟨a, b⟩ := p
  have hmem : ((at' s b).bonded.contains a = true) ↔ Bonds.bondedIn ps a b := by
    rw [List.contains_iff_mem, ← adj, h.adjEq b, Bonds.adjOf_symm, Bonds.mem_adjOf]
  unfold bondStep Bonds.tryBond
  by_cases hb : Bonds.bondedIn ps a b
  · rw [if_pos (hmem.mpr hb), if_pos hb]; exact h
  · rw [if_neg (mt hmem.mp hb), if_neg hb, h.geo a, h.geo b]
    -- the distance criterion, then the disulfide test
    split
    · split
      · exact refines_flagBridge (refines_addBond h a b h1 h2 hne hb) a b
      · exact refines_addBond h a b h1 h2 hne hb
    · exact h

/-- any call sequence over distinct atoms of the table -/
theorem bondFold_refines (P : PP α) (s0 : St α) :
    ∀ (vis : List (Nat × Nat)) (s : St α) (ps : List (Nat × Nat)), Refines s0 s ps →
      (∀ p ∈ vis, p.1 < s0.size ∧ p.2 < s0.size ∧ p.1 ≠ p.2) →
      Refines s0 (vis.foldl (bondStep P) s)
        (vis.foldl (Bonds.tryBond (fun i j => Bonds.crit P.bond (batom s0 i) (batom s0 j))) ps) :=
  fun _ _ _ h hv => List.foldl_rel (r := Refines s0) h fun p hp s ps h =>
    bondStep_refines P s0 s ps p h (hv p hp).1 (hv p hp).2.1 (hv p hp).2.2

/-- **The bonding phase of the set-up pipeline computes the bond lists of the pair-list model of C11**: for a table of atoms
    without bonds, whose cell offsets do not contain the zero offset, the bond list of every atom after `bondAll` is its adjacency
    in `Bonds.findBonds` over the same cells and the same criterion - in the same order. -/
theorem bondAll_refines (P : PP α) (s0 : St α) (h0 : (0, 0, 0) ∉ P.offsets) (hempty : ∀ i, adj s0 i = []) :
    ∀ i, adj (bondAll P s0) i =
      Bonds.adjOf (Bonds.findBonds P.offsets (fun i => Bonds.cellOf P.bond (batom s0 i))
        (fun i j => Bonds.crit P.bond (batom s0 i) (batom s0 j)) s0.size) i :=
  (bondFold_refines P s0 _ s0 [] ⟨rfl, fun _ => rfl, hempty⟩ fun p hp => Bonds.visited_lt_ne _ h0 _ _ p.1 p.2 hp).adjEq

end Propka.Pipe
