import Propka.Model.Pdb
/-! Lemmas for C01 / C06 / C07 / C12 / C13: the terminus bookkeeping keyed by a coarse key simulates the
    one keyed by residue identity; records and lines the parser passes over (`passed`) can be deleted
    (`emit_filter`, `parseFrom_filter`); what `lineCheck`, `classify` and `stepLine` read of the options;
    the arguments `mkCoreS` and `mkAtom` only store (`mkCoreS_stored`). -/
namespace Propka.Pdb
open Propka.Py

def Rec.mapKey {κ κ' : Type} (f : κ → κ') (r : Rec κ) : Rec κ' :=
  { kind := r.kind, isN := r.isN, isOxt := r.isOxt, key := f r.key, skip := r.skip }

/-- states correspond: the code's keys are the images of the specification's residues -/
def Rel {κ κ' : Type} (f : κ → κ') (c : St κ') (t : St κ) : Prop :=
  (c.nterm = .next ↔ t.nterm = .next) ∧
  (∀ k, t.nterm = .key k → c.nterm = .key (f k)) ∧
  c.old = t.old.map f

/-- agreement: on the residues the specification state remembers, equality of code keys coincides
    with identity of residues -/
def Agree {κ κ' : Type} (f : κ → κ') (t : St κ) (r : Rec κ) : Prop :=
  (∀ k, t.old = some k → (f r.key = f k ↔ r.key = k)) ∧
  (∀ k, t.nterm = .key k → (f r.key = f k ↔ r.key = k))

theorem step_sim {κ κ' : Type} [DecidableEq κ] [DecidableEq κ'] (f : κ → κ') (c : St κ') (t : St κ) (r : Rec κ)
    (hrel : Rel f c t) (hag : Agree f t r) :
    Rel f (step c (r.mapKey f)).1 (step t r).1 ∧ (step c (r.mapKey f)).2 = (step t r).2 := by
  obtain ⟨kind, isN, isOxt, key, skip⟩ := r
  cases kind
  case other | hetatm => exact ⟨hrel, rfl⟩
  case model | ter => exact ⟨⟨iff_of_true rfl rfl, nofun, hrel.2.2⟩, rfl⟩
  case atom =>
    cases skip
    case true => exact ⟨hrel, rfl⟩
    case false =>
      obtain ⟨h1, h2, h3⟩ := hrel
      -- `step` reads the key through two tests, and `Agree` makes each come out alike on the two sides
      have eo : c.old = some (f key) ↔ t.old = some key := by
        rw [h3]
        cases ho : t.old with
        | none => simp
        | some k => simpa [eq_comm] using hag.1 k ho
      have en : c.nterm = .key (f key) ↔ t.nterm = .key key := by
        cases hn : t.nterm with
        | next => simp [h1.mpr hn]
        | key k => simpa [h2 k hn, eq_comm] using hag.2 k hn
      by_cases hn : t.nterm = .next
      · by_cases ho : t.old = some key
        · cases isOxt <;> simp [step, Rec.mapKey, Rel, hn, ho, h1.mpr hn, eo.mpr ho]
        · cases isOxt <;> simp [step, Rec.mapKey, Rel, hn, ho, h1.mpr hn, mt eo.mp ho]
      · cases isOxt
        · simpa [step, Rec.mapKey, Rel, hn, mt h1.mp hn, en, h3] using h2
        · simp [step, Rec.mapKey, Rel, hn, mt h1.mp hn]

def AgreeRun {κ κ' : Type} [DecidableEq κ] (f : κ → κ') : St κ → List (Rec κ) → Prop
  | _, [] => True
  | t, r :: rs => Agree f t r ∧ AgreeRun f (step t r).1 rs

theorem run_sim {κ κ' : Type} [DecidableEq κ] [DecidableEq κ'] (f : κ → κ') (c : St κ') (t : St κ) (rs : List (Rec κ))
    (hrel : Rel f c t) (hag : AgreeRun f t rs) :
    run c (rs.map (Rec.mapKey f)) = run t rs := by
  induction rs generalizing c t with
  | nil => rfl
  | cons r rs ih =>
    obtain ⟨ha, hrest⟩ := hag
    obtain ⟨hr, htag⟩ := step_sim f c t r hrel ha
    simp only [List.map_cons, run, htag]
    rw [ih _ _ hr hrest]

def isSkippedAtom {κ : Type} (r : Rec κ) : Bool := (r.kind = .atom || r.kind = .hetatm) && r.skip

/-- the parser passes over `r`: no atom comes of it and the bookkeeping is left alone -/
def passed {κ : Type} (r : Rec κ) : Bool := r.kind == .other || isSkippedAtom r

/-- what being passed over means to the three places that look at a record: `step`, `emit` and `stepLine` -/
theorem passed_elim {κ : Type} [DecidableEq κ] (r : Rec κ) (h : passed r = true) :
    (∀ s : St κ, step s r = (s, false)) ∧ ¬((r.kind = .atom ∨ r.kind = .hetatm) ∧ r.skip = false) ∧ r.kind ≠ .model := by
  unfold passed isSkippedAtom at h
  unfold step
  cases hk : r.kind <;> simp_all

theorem emit_cons_passed {κ : Type} [DecidableEq κ] (s : St κ) (r : Rec κ) (rs : List (Rec κ)) (h : passed r = true) :
    emit s (r :: rs) = emit s rs := by
  rw [emit, if_neg (passed_elim r h).2.1, (passed_elim r h).1]

theorem emit_filter {κ : Type} [DecidableEq κ] (drop : Rec κ → Bool) (hd : ∀ r, drop r = true → passed r = true) (s : St κ)
    (rs : List (Rec κ)) : emit s rs = emit s (rs.filter (fun r => !drop r)) := by
  induction rs generalizing s with
  | nil => rfl
  | cons r rs ih =>
    cases h : drop r
    · rw [List.filter_cons_of_pos (by simp [h])]
      simp only [emit, ih]
    · rw [List.filter_cons_of_neg (by simp [h]), emit_cons_passed s r rs (hd r h), ih]

theorem emit_delete_skipped {κ : Type} [DecidableEq κ] (s : St κ) (rs : List (Rec κ)) :
    emit s rs = emit s (rs.filter (fun r => !isSkippedAtom r)) :=
  emit_filter isSkippedAtom (fun r h => by simp [passed, h]) s rs

/-- inserting or removing records of kind `other` does not change what is emitted -/
theorem emit_delete_other {κ : Type} [DecidableEq κ] (s : St κ) (rs : List (Rec κ)) :
    emit s rs = emit s (rs.filter (fun r => !(r.kind = .other))) :=
  emit_filter (fun r => r.kind = .other) (fun r h => by simp_all [passed]) s rs

def isAtomLine (l : Str) : Bool := kindOf l = .atom || kindOf l = .hetatm

theorem atomKind_classify (o : Opts) (l : Str) : atomKind (classify o l) = isAtomLine l := by
  unfold atomKind isAtomLine classify; cases kindOf l <;> rfl

theorem passed_classify (o : Opts) (l : Str) :
    passed (classify o l) = (kindOf l == .other || isAtomLine l && isSkipped o l) := by
  unfold passed isSkippedAtom isAtomLine classify; cases kindOf l <;> simp

theorem atomKind_not_model (r : Rec Str) (h : atomKind r = true) : (r.kind == Kind.model) = false := by
  unfold atomKind at h; cases hk : r.kind <;> simp_all

/-- an ATOM/HETATM line passes the check when it reaches column 17 and, unless its residue is ignored or no chain is
    selected, column 22 -/
theorem lineCheck_atom (o : Opts) (l : Str) (ha : isAtomLine l = true) (h16 : 16 < l.length)
    (h : o.ignore.contains (str (slice l 17 20)) = true ∨ o.chains.isEmpty = true ∨ 21 < l.length) :
    lineCheck o l = .ok () := by
  rw [← atomKind_classify o] at ha
  have h16 : decide (l.length ≤ 16) = false := decide_eq_false (Nat.not_le.mpr h16)
  unfold lineCheck
  rcases h with h | h | h
  · simp [atomKind_not_model _ ha, ha, h16, List.contains_iff_mem.mp h]
  · simp [atomKind_not_model _ ha, ha, h16, List.isEmpty_iff.mp h]
  · have h21 : decide (l.length ≤ 21) = false := decide_eq_false (Nat.not_le.mpr h)
    simp [atomKind_not_model _ ha, ha, h16, h21]

/-- on any other line only the number of a MODEL record is checked: the options are not read -/
theorem lineCheck_nonatom (o : Opts) (l : Str) (ha : isAtomLine l = false) :
    lineCheck o l = if kindOf l == .model && (parseInt (l.drop 6)).isNone then .error .valueError else .ok () := by
  unfold lineCheck
  simp only [atomKind_classify, ha, Bool.false_and, Bool.false_eq_true, if_false]
  rfl

theorem stepLine_passed (o : Opts) (s : PState) (l : Str) (hc : lineCheck o l = .ok ())
    (hp : passed (classify o l) = true) : stepLine o s l = pure (s, none) := by
  obtain ⟨hs, he, hm⟩ := passed_elim _ hp
  unfold stepLine
  rw [hc]
  simp only [atomKind, beq_iff_eq, hm, hs, Bool.and_eq_true, Bool.or_eq_true, Bool.not_eq_true', he, if_false]
  rfl

/-- `classify` reads the options through `isSkipped`, and on ATOM/HETATM lines only -/
theorem classify_congr (o o' : Opts) (l : Str) (h : isAtomLine l = true → isSkipped o l = isSkipped o' l) :
    classify o l = classify o' l := by
  rw [← atomKind_classify o] at h
  unfold classify atomKind at *
  dsimp only at h ⊢
  congr 1
  cases ha : (kindOf l == .atom || kindOf l == .hetatm)
  · rfl
  · rw [h ha]

/-- `stepLine` reads the options through `classify`, `lineCheck` and the keep-protons flag only -/
theorem stepLine_congr (o o' : Opts) (s : PState) (l : Str) (hc : classify o l = classify o' l)
    (hl : lineCheck o l = lineCheck o' l) (hk : o.keepProtons = o'.keepProtons) : stepLine o s l = stepLine o' s l := by
  unfold stepLine; rw [hc, hl, hk]

theorem parseFrom_cons_passed (o : Opts) (s : PState) (l : Str) (ls : List Str) (h : stepLine o s l = pure (s, none)) :
    parseFrom o s (l :: ls) = parseFrom o s ls := by
  rw [parseFrom, h, pure_bind]
  exact bind_pure _

/-- lines that are passed over under `o` can be deleted, and the options may change to `o'` as long as every line that
    stays is read alike under both -/
theorem parseFrom_filter (o o' : Opts) (drop : Str → Bool) (lines : List Str)
    (hdrop : ∀ l ∈ lines, drop l = true → ∀ s, stepLine o s l = pure (s, none))
    (hkeep : ∀ l ∈ lines, drop l = false → ∀ s, stepLine o s l = stepLine o' s l) (s : PState) :
    parseFrom o s lines = parseFrom o' s (lines.filter (fun l => !drop l)) := by
  induction lines generalizing s with
  | nil => rfl
  | cons l ls ih =>
    have ih := ih (fun l h => hdrop l (.tail _ h)) (fun l h => hkeep l (.tail _ h))
    cases hd : drop l
    · rw [List.filter_cons_of_pos (by simp [hd]), parseFrom, parseFrom, hkeep l (.head _) hd]
      simp only [ih]
    · rw [List.filter_cons_of_neg (by simp [hd]), parseFrom_cons_passed o s l ls (hdrop l (.head _) hd s), ih]

/-- the conformation name, the terminal tag, the serial number, the occupancy and the B-factor take no part in any
    conversion: they are written into the record at the end.  (The body shares its continuations as `have`-bound
    join points: `simp` and `split` copy them into every branch, so the conversions are decided one by one first.) -/
theorem mkCoreS_stored (s0 sname sel sres sch snum sic sx sy sz : Str) (c t : String) (n : Int) (o b : String) :
    mkCoreS s0 sname sel sres sch snum sic sx sy sz c t n o b =
      (fun a => { a with conf := c, terminal := t, serial := n, occ := o, beta := b }) <$>
        mkCoreS s0 sname sel sres sch snum sic sx sy sz "" "" 0 "" "" := by
  unfold mkCoreS
  obtain _ | x := parseDecimal sx
  · rfl
  obtain _ | y := parseDecimal sy
  · rfl
  obtain _ | z := parseDecimal sz
  · rfl
  obtain _ | r := parseInt snum
  · rfl
  dsimp only
  cases (strip sname).length == 4 <;> cases stripDigits (strip sel) <;> rfl

theorem mkAtom_stored (l : Str) (c t : String) :
    mkAtom l c t = (fun a => { a with conf := c, terminal := t }) <$> mkAtom l "" "" := by
  unfold mkAtom
  cases H36.decode (slice l 6 11) with
  | valueError => rfl
  | ok n =>
    simp only
    rw [mkCoreS_stored _ _ _ _ _ _ _ _ _ _ c t, mkCoreS_stored _ _ _ _ _ _ _ _ _ _ "" "" n]
    cases mkCoreS _ _ _ _ _ _ _ _ _ _ "" "" 0 "" "" <;> rfl

end Propka.Pdb
