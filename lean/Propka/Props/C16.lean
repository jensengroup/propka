import Propka.Proofs.Iterative
import Propka.Gen.Cfg
import Propka.Gen.Consts
import Propka.Proofs.Angle
import Propka.Props.C08
import Propka.Proofs.Scoring
/-! # C16 — every contribution has the physically required sign and stays in model bounds

Kernels of `propka.energy` and sign rules of `propka.determinants` at `ℝ`, parametric in the
parameters; `WellFormed` collects what the proofs need from a parameter set, and `inst_*` decide it
for the shipped file and the module constants (regenerated from `/repo`).  Then the angle factor, the
averages, and the same signs and bounds for everything `Scoring.score` leaves on a group. -/
namespace Propka.Energy

structure WellFormed (p : EP ℝ) : Prop where
  n : p.nmin < p.nmax
  surf0 : 0 ≤ p.surf
  surf1 : p.surf ≤ 1
  pref : p.prefactor ≤ 0
  cc : 0 < p.cc1 ∧ p.cc1 < p.cc2
  diel : 0 < p.diel2 ∧ p.diel2 ≤ p.diel1
  cs : 0 ≤ p.cscale
  bb : p.bbd2 < p.bbd1
  bbs : 0 ≤ p.bbscale
  md : 0 < p.minDist4

theorem abs_eq (x : ℝ) : absS x = |x| := by
  unfold absS; simp only [Nat.cast_zero]
  by_cases h : x < 0
  · rw [if_pos h, abs_of_neg h]
  · rw [if_neg h, abs_of_nonneg (not_lt.mp h), add_zero]

theorem clamp_unit (x : ℝ) : 0 ≤ max 0 (min 1 x) ∧ max 0 (min 1 x) ≤ 1 :=
  ⟨le_max_left _ _, max_le zero_le_one (min_le_left _ _)⟩

/-- **The buried fraction lies between 0 and 100 %.** -/
theorem weight_unit (p : EP ℝ) (n : ℝ) : 0 ≤ calculateWeight p n ∧ calculateWeight p n ≤ 1 := by
  unfold calculateWeight
  simp only [Nat.cast_zero, Nat.cast_one]
  exact clamp_unit _

theorem pair_weight_unit (p : EP ℝ) (a b : ℝ) : 0 ≤ pairWeight p a b ∧ pairWeight p a b ≤ 1 := by
  unfold pairWeight
  simp only [Nat.cast_zero, Nat.cast_one]
  exact clamp_unit _

theorem scale_in (p : EP ℝ) (h : WellFormed p) (w : ℝ) (h0 : 0 ≤ w) (h1 : w ≤ 1) :
    p.surf ≤ scaleFactor p w ∧ scaleFactor p w ≤ 1 := by
  unfold scaleFactor; simp only [Nat.cast_one]
  have hs := sub_nonneg.mpr h.surf1
  have := mul_le_of_le_one_right hs (sub_le_self 1 h0)
  have := mul_nonneg hs (sub_nonneg.mpr h1)
  constructor <;> linarith

theorem dvInc_nonneg (p : EP ℝ) (h : WellFormed p) (dvol sq : ℝ) (hv : 0 ≤ dvol) : 0 ≤ dvInc p dvol sq := by
  unfold dvInc
  have : 0 < max p.minDist4 (sq * sq) := lt_max_of_lt_left h.md
  positivity

/-- **Desolvation never lowers an acid's pKa nor raises a base's.** -/
theorem desolvation_sign (p : EP ℝ) (h : WellFormed p) (q vol w : ℝ) (h0 : 0 ≤ w) (h1 : w ≤ 1) :
    (q < 0 → 0 ≤ energyVolume p q vol w) ∧ (0 < q → energyVolume p q vol w ≤ 0) := by
  unfold energyVolume
  simp only [Nat.cast_zero]
  have hs := (scale_in p h w h0 h1).1
  have hs0 : 0 ≤ scaleFactor p w := le_trans h.surf0 hs
  have hm : 0 ≤ max 0 (vol - p.allowance) := le_max_left _ _
  exact ⟨fun hq => mul_nonneg (mul_nonneg (mul_nonneg_of_nonpos_of_nonpos hq.le h.pref) hm) hs0,
    fun hq => mul_nonpos_of_nonpos_of_nonneg (mul_nonpos_of_nonpos_of_nonneg (mul_nonpos_of_nonneg_of_nonpos hq.le h.pref) hm) hs0⟩

theorem reorgTerm_nonneg (p : EP ℝ) (h : WellFormed p) (d f : ℝ) : 0 ≤ reorgTerm p d f := by
  unfold reorgTerm
  simp only [Nat.cast_zero, Nat.cast_one]
  split
  · rename_i hc
    have : 0 ≤ 1 - (d - p.bbd2) / (p.bbd1 - p.bbd2) :=
      sub_nonneg.mpr ((div_le_one (sub_pos.mpr h.bb)).mpr (sub_le_sub_right hc.1.le _))
    have : 0 ≤ min 1 (1 - (d - p.bbd2) / (p.bbd1 - p.bbd2)) := le_min zero_le_one this
    exact mul_nonneg h.bbs this
  · exact le_refl 0

/-- backbone reorganisation (the second desolvation term, for acids) never lowers the pKa -/
theorem reorganisation_nonneg (p : EP ℝ) (h : WellFormed p) (terms : List (ℝ × ℝ)) (w : ℝ) (h0 : 0 ≤ w) :
    0 ≤ energyLocal p terms w := by
  unfold energyLocal
  simp only [Nat.cast_zero]
  exact mul_nonneg (List.foldlRecOn terms _ le_rfl fun a ha t _ => add_nonneg ha (reorgTerm_nonneg p h t.1 t.2)) h0

theorem hbond_nonneg (dist dmax c1 c2 f : ℝ) : 0 ≤ hbondEnergy dist dmax c1 c2 f := by
  unfold hbondEnergy; simp only [abs_eq]; exact abs_nonneg _

/-- a hydrogen-bond energy is between 0 and `|dpka_max|·|f_angle|` -/
theorem hbond_range (dist dmax c1 c2 f : ℝ) (hc : c1 < c2) :
    0 ≤ hbondEnergy dist dmax c1 c2 f ∧ hbondEnergy dist dmax c1 c2 f ≤ |dmax| * |f| := by
  refine ⟨hbond_nonneg .., ?_⟩
  unfold hbondEnergy
  simp only [Nat.cast_zero, Nat.cast_one, abs_eq]
  have hv : ∀ v : ℝ, 0 ≤ v → v ≤ 1 → |dmax * v * f| ≤ |dmax| * |f| := fun v h0 h1 => by
    rw [abs_mul, abs_mul, abs_of_nonneg h0]
    exact mul_le_mul_of_nonneg_right (mul_le_of_le_one_right (abs_nonneg _) h1) (abs_nonneg _)
  split
  · exact hv 1 zero_le_one le_rfl
  · split
    · exact hv 0 le_rfl zero_le_one
    · rename_i h1 h2
      have hpos : 0 < c2 - c1 := sub_pos.mpr hc
      exact hv _ (sub_nonneg.mpr ((div_le_one hpos).mpr (sub_le_sub_right (not_lt.mp h2) _)))
        (sub_le_self 1 (div_nonneg (sub_nonneg.mpr (not_lt.mp h1)) hpos.le))

/-- **A backbone hydrogen bond never raises an acid's pKa nor lowers a base's.** -/
theorem backbone_sign (q e : ℝ) (he : 0 ≤ e) : (q < 0 → backboneValue q e ≤ 0) ∧ (0 < q → 0 ≤ backboneValue q e) := by
  unfold backboneValue
  exact ⟨fun hq => mul_nonpos_of_nonpos_of_nonneg hq.le he, fun hq => mul_nonneg hq.le he⟩

/-- the Coulomb energy is between 0 and its value at the inner cut-off with the buried dielectric -/
theorem coulomb_range (p : EP ℝ) (h : WellFormed p) (d w : ℝ) (hw0 : 0 ≤ w) (hw1 : w ≤ 1) :
    0 ≤ coulombEnergy p d w ∧ coulombEnergy p d w ≤ p.cscale / (p.diel2 * p.cc1) := by
  unfold coulombEnergy
  simp only [Nat.cast_zero, Nat.cast_one, abs_eq]
  obtain ⟨h1, _⟩ := h.cc
  obtain ⟨hd2, hd12⟩ := h.diel
  have hd : p.cc1 ≤ max d p.cc1 := le_max_right _ _
  have hdl : p.diel2 ≤ p.diel1 - (p.diel1 - p.diel2) * w := by
    linarith [mul_nonneg (sub_nonneg.mpr hd12) (sub_nonneg.mpr hw1)]
  have hden : p.diel2 * p.cc1 ≤ (p.diel1 - (p.diel1 - p.diel2) * w) * max d p.cc1 :=
    mul_le_mul hdl hd h1.le (hd2.le.trans hdl)
  have hq : 0 ≤ p.cscale / ((p.diel1 - (p.diel1 - p.diel2) * w) * max d p.cc1) :=
    div_nonneg h.cs ((mul_pos hd2 h1).le.trans hden)
  have hpos := mul_nonneg hq (le_min zero_le_one (le_max_left 0 ((max d p.cc1 - p.cc2) / (p.cc1 - p.cc2))))
  rw [abs_of_nonneg hpos]
  exact ⟨hpos, (mul_le_of_le_one_right hq (min_le_left _ _)).trans
    (div_le_div_of_nonneg_left h.cs (mul_pos hd2 h1) hden)⟩

/-- **An ion shifts a pKa against the sign of its own charge** (stabilising for opposite, destabilising
    for like charges, for acids and bases alike); its magnitude is `|Q|` times the Coulomb energy. -/
theorem ion_sign (qIon e : ℝ) (he : 0 ≤ e) :
    (0 < qIon → ionValue qIon e ≤ 0) ∧ (qIon < 0 → 0 ≤ ionValue qIon e) ∧ |ionValue qIon e| = |qIon| * e := by
  unfold ionValue
  refine ⟨fun hq => by nlinarith, fun hq => by nlinarith, ?_⟩
  rw [abs_mul, abs_neg, abs_of_nonneg he]

/-- **Coulomb determinants of a pair**: two acids — one determinant `+v` (pKa up, destabilising) on the
    one with the higher model pKa; two bases — one determinant `−v` on the one with the lower model
    pKa; acid–base — `q₁v` and `q₂v`, i.e. stabilising for both and **equal and opposite**. -/
theorem coulomb_pair_signs (q1 q2 m1 m2 v : ℝ) (hv : 0 ≤ v) :
    (q1 < 0 → q2 < 0 → coulombRule q1 q2 m1 m2 v = [(1, v)] ∨ coulombRule q1 q2 m1 m2 v = [(2, v)]) ∧
    (0 < q1 → 0 < q2 → coulombRule q1 q2 m1 m2 v = [(1, -v)] ∨ coulombRule q1 q2 m1 m2 v = [(2, -v)]) ∧
    (q1 = -1 → q2 = 1 → coulombRule q1 q2 m1 m2 v = [(1, -v), (2, v)]) ∧
    (q1 = 1 → q2 = -1 → coulombRule q1 q2 m1 m2 v = [(1, v), (2, -v)]) := by
  unfold coulombRule
  simp only [Nat.cast_zero]
  refine ⟨?_, ?_, ?_, ?_⟩
  · intro h1 h2; simp only [h1, h2, and_self, if_true]; split <;> simp
  · intro h1 h2
    have n1 : ¬ (q1 < 0 ∧ q2 < 0) := fun h => lt_asymm h1 h.1
    simp only [n1, if_false, h1, h2, and_self, if_true]; split <;> simp
  · intro h1 h2; subst h1; subst h2; norm_num
  · intro h1 h2; subst h1; subst h2; norm_num

theorem ionpair_opposite (q1 q2 m1 m2 v : ℝ) (h : (q1 = -1 ∧ q2 = 1) ∨ (q1 = 1 ∧ q2 = -1)) :
    ((coulombRule q1 q2 m1 m2 v).map (·.2)).sum = 0 ∧ (coulombRule q1 q2 m1 m2 v).length = 2 := by
  rcases h with ⟨rfl, rfl⟩ | ⟨rfl, rfl⟩ <;> (unfold coulombRule; norm_num)

/-- side-chain hydrogen bond between unlike charges: each group gets `v·q` (acid down, base up);
    between like charges: the one with the lower model pKa goes down, the other up, by `v` -/
theorem sidechain_pair_signs (q1 q2 m1 m2 v : ℝ) :
    (q1 ≠ q2 → sidechainRule q1 q2 m1 m2 v = [(1, v * q1), (2, v * q2)]) ∧
    (q1 = q2 → m1 < m2 → sidechainRule q1 q2 m1 m2 v = [(1, -v), (2, v)]) ∧
    (q1 = q2 → ¬ m1 < m2 → sidechainRule q1 q2 m1 m2 v = [(1, v), (2, -v)]) := by
  unfold sidechainRule
  refine ⟨?_, ?_, ?_⟩
  · intro h
    have : ¬ (¬ q1 < q2 ∧ ¬ q2 < q1) := fun ⟨a, b⟩ => h.lt_or_gt.elim a b
    rw [if_neg this]
  · intro h hm; subst h; simp [hm]
  · intro h hm; subst h; simp [hm]

/-- every side-chain determinant of formal charge ±1 groups is bounded by the interaction value -/
theorem sidechain_bound (q1 q2 m1 m2 v : ℝ) (hq1 : |q1| ≤ 1) (hq2 : |q2| ≤ 1) :
    ∀ o ∈ sidechainRule q1 q2 m1 m2 v, |o.2| ≤ |v| := by
  unfold sidechainRule
  intro o ho
  split at ho
  · split at ho <;> (simp only [List.mem_cons, List.mem_nil_iff, or_false] at ho; rcases ho with rfl | rfl <;> simp)
  · simp only [List.mem_cons, List.mem_nil_iff, or_false] at ho
    rcases ho with rfl | rfl <;> rw [abs_mul]
    · exact mul_le_of_le_one_right (abs_nonneg v) hq1
    · exact mul_le_of_le_one_right (abs_nonneg v) hq2

/-- `e·(1 + w)` lies between 0 and `2e` for a weight in [0, 1]: the factor by which the COO–COO exception (`Scoring.cooCoo`)
    scales a hydrogen-bond energy is at most 2 -/
theorem coo_coo_bound (e w : ℝ) (he : 0 ≤ e) (h0 : 0 ≤ w) (h1 : w ≤ 1) : 0 ≤ e * (1 + w) ∧ e * (1 + w) ≤ 2 * e := by
  constructor <;> nlinarith

open Propka.Gen.Cfg Propka.Gen.Consts

/-- the shipped parameter set, in millionths -/
def shippedMicro : EP ℤ :=
  { nmin := f_Nmin, nmax := f_Nmax, surf := f_desolvationSurfaceScalingFactor, prefactor := f_desolvationPrefactor,
    allowance := f_desolvationAllowance, cc1 := f_coulomb_cutoff1, cc2 := f_coulomb_cutoff2,
    diel1 := energy_UNK_DIELECTRIC1, diel2 := energy_UNK_DIELECTRIC2, cscale := energy_UNK_PKA_SCALING1,
    bbd1 := energy_UNK_BACKBONE_DISTANCE1, bbd2 := energy_UNK_BACKBONE_DISTANCE2, bbscale := energy_UNK_PKA_SCALING2,
    fmin := energy_UNK_FANGLE_MIN, minDist4 := 1 }

theorem inst_wellformed :
    shippedMicro.nmin < shippedMicro.nmax ∧ 0 ≤ shippedMicro.surf ∧ shippedMicro.surf ≤ 1000000 ∧ shippedMicro.prefactor ≤ 0 ∧
    0 < shippedMicro.cc1 ∧ shippedMicro.cc1 < shippedMicro.cc2 ∧ 0 < shippedMicro.diel2 ∧ shippedMicro.diel2 ≤ shippedMicro.diel1 ∧
    0 ≤ shippedMicro.cscale ∧ shippedMicro.bbd2 < shippedMicro.bbd1 ∧ 0 ≤ shippedMicro.bbscale ∧ 0 < energy_UNK_MIN_DISTANCE := by decide

/-- the shipped parameter set as real numbers (the generated table holds millionths) -/
noncomputable def shippedReal : EP ℝ :=
  let r (z : ℤ) : ℝ := (z : ℝ) / 1000000
  { nmin := r shippedMicro.nmin, nmax := r shippedMicro.nmax, surf := r shippedMicro.surf, prefactor := r shippedMicro.prefactor,
    allowance := r shippedMicro.allowance, cc1 := r shippedMicro.cc1, cc2 := r shippedMicro.cc2, diel1 := r shippedMicro.diel1,
    diel2 := r shippedMicro.diel2, cscale := r shippedMicro.cscale, bbd1 := r shippedMicro.bbd1, bbd2 := r shippedMicro.bbd2,
    bbscale := r shippedMicro.bbscale, fmin := r shippedMicro.fmin, minDist4 := 1 }

theorem micro_lt (a b : ℤ) (h : a < b) : (a : ℝ) / 1000000 < (b : ℝ) / 1000000 :=
  div_lt_div_of_pos_right (by exact_mod_cast h) (by norm_num)
theorem micro_le (a b : ℤ) (h : a ≤ b) : (a : ℝ) / 1000000 ≤ (b : ℝ) / 1000000 :=
  div_le_div_of_nonneg_right (by exact_mod_cast h) (by norm_num)

/-- **The parametric kernel theorems apply to the shipped parameter file**: the hypotheses collected in `WellFormed` follow
    from the integer facts decided on the regenerated tables. -/
theorem shipped_wellformed : WellFormed shippedReal := by
  obtain ⟨h1, h2, h3, h4, h5, h6, h7, h8, h9, h10, h11, _⟩ := inst_wellformed
  have m : (0 : ℝ) < 1000000 := by norm_num
  exact {
    n := micro_lt _ _ h1
    surf0 := div_nonneg (Int.cast_nonneg h2) m.le
    surf1 := (div_le_one m).mpr (by exact_mod_cast h3)
    pref := div_nonpos_of_nonpos_of_nonneg (Int.cast_nonpos.mpr h4) m.le
    cc := ⟨div_pos (Int.cast_pos.mpr h5) m, micro_lt _ _ h6⟩
    diel := ⟨div_pos (Int.cast_pos.mpr h7) m, micro_le _ _ h8⟩
    cs := div_nonneg (Int.cast_nonneg h9) m.le
    bb := micro_lt _ _ h10
    bbs := div_nonneg (Int.cast_nonneg h11) m.le
    md := one_pos }

/-- van der Waals volumes are positive, cut-off pairs are ordered, every titratable kind has charge ±1 -/
theorem inst_tables : (∀ kv ∈ f_VanDerWaalsVolume, 0 < kv.2) ∧ scDefault.1 < scDefault.2 ∧ (∀ e ∈ scPairs, e.2.2.1 < e.2.2.2) ∧
    (∀ kv ∈ titratableKinds, ((f_charge.find? (fun c => c.1 == kv.2)).map (·.2)) ∈ [some 1000000, some (-1000000)]) ∧
    0 < f_sidechain_interaction := by decide +kernel

/-- the configured maxima the property names: twice the side-chain maximum is 1.70, the exception values are 1.60 / 3.60,
    and the Coulomb value at the inner cut-off with the buried dielectric is 244.12/(30·4) ≈ 2.03 -/
theorem inst_maxima : 2 * f_sidechain_interaction = 1700000 ∧ f_COO_HIS_exception = 1600000 ∧ f_CYS_CYS_exception = 3600000 ∧
    energy_UNK_PKA_SCALING1 * 1000000 / (energy_UNK_DIELECTRIC2 * f_coulomb_cutoff1 / 1000000) = 2034333 := by decide

open Propka.Iter in
/-- in every iteration two acids get exactly one Coulomb determinant, `+coul`, on one of them; two
    bases exactly one, `−coul`; an acid–base pair gets `q₁·coul` and `q₂·coul` together or nothing -
    hence the two Coulomb determinants of an acid–base pair are equal and opposite -/
theorem iterative_pair_signs (gs : Array (IGroup ℚ)) (old : Array ℚ) (it : Iter.Inter ℚ) (ann : ℚ × ℚ) :
    let q1 := (gs.getD it.g1 ⟨0, 0, false⟩).q
    let q2 := (gs.getD it.g2 ⟨0, 0, false⟩).q
    (q1 < 0 → q2 < 0 → ∃ o p, coulombDets (interStep minValue gs old it ann).1 = [⟨o, p, .coulomb, it.coul⟩]) ∧
    (0 < q1 → 0 < q2 → ∃ o p, coulombDets (interStep minValue gs old it ann).1 = [⟨o, p, .coulomb, -it.coul⟩]) ∧
    (((q1 = -1 ∧ q2 = 1) ∨ (q1 = 1 ∧ q2 = -1)) →
      coulombDets (interStep minValue gs old it ann).1 = [] ∨
      coulombDets (interStep minValue gs old it ann).1 = [⟨it.g1, it.g2, .coulomb, q1 * it.coul⟩, ⟨it.g2, it.g1, .coulomb, q2 * it.coul⟩]) := by
  intro q1 q2
  refine ⟨?_, ?_, ?_⟩
  · intro h1 h2; obtain ⟨o, p, h, _⟩ := acid_pair_coulomb _ gs old it ann h1 h2; exact ⟨o, p, h⟩
  · intro h1 h2; obtain ⟨o, p, h, _⟩ := base_pair_coulomb _ gs old it ann h1 h2; exact ⟨o, p, h⟩
  · intro h; exact ion_pair_coulomb _ gs old it ann h

theorem iterative_ionpair_cancels (q1 q2 c : ℚ) (h : (q1 = -1 ∧ q2 = 1) ∨ (q1 = 1 ∧ q2 = -1)) : q1 * c + q2 * c = 0 := by
  rcases h with ⟨rfl, rfl⟩ | ⟨rfl, rfl⟩ <;> ring

/-! ### Non-vacuity -/
example : WellFormed ⟨280, 560, 0.25, -13, 0, 4, 10, 160, 30, 244.12, 6, 3, 0.8, 0.001, 57.19140625⟩ := by
  constructor <;> norm_num

end Propka.Energy

namespace Propka.Angle
open Real
/-- **The angle factor is a cosine**: for three atoms with `atom1 ≠ atom2 ≠ atom3` (the code divides by both distances)
    the factor lies in [-1, 1] (the callers clamp negative values to 0 before `hydrogen_bond_energy` sees them). -/
theorem f_angle_range (p1 p2 p3 : P3 ℝ)
    (h12 : 0 < (p1.x - p2.x) * (p1.x - p2.x) + (p1.y - p2.y) * (p1.y - p2.y) + (p1.z - p2.z) * (p1.z - p2.z))
    (h23 : 0 < (p2.x - p3.x) * (p2.x - p3.x) + (p2.y - p3.y) * (p2.y - p3.y) + (p2.z - p3.z) * (p2.z - p3.z)) :
    |(factors p1 p2 p3).2.1| ≤ 1 := by
  have hAB : 0 < √(Scoring.dot4 p1 p2 p1 p2) * √(Scoring.dot4 p2 p3 p2 p3) := mul_pos (sqrt_pos.mpr h12) (sqrt_pos.mpr h23)
  rw [Scoring.factors_eq_dot4, abs_div, abs_of_pos hAB, div_le_one hAB]
  exact Scoring.abs_dot_le ..

/-- the two distances returned are the Euclidean distances -/
theorem dists (p1 p2 p3 : P3 ℝ) :
    (factors p1 p2 p3).1 = √((p1.x - p2.x) * (p1.x - p2.x) + (p1.y - p2.y) * (p1.y - p2.y) + (p1.z - p2.z) * (p1.z - p2.z)) ∧
    (factors p1 p2 p3).2.2 = √((p2.x - p3.x) * (p2.x - p3.x) + (p2.y - p3.y) * (p2.y - p3.y) + (p2.z - p3.z) * (p2.z - p3.z)) := ⟨rfl, rfl⟩

/-- collinear donor geometry gives the full factor: atom1 on the ray from atom3 through atom2 -/
example : (factors (⟨2, 0, 0⟩ : P3 ℝ) ⟨1, 0, 0⟩ ⟨0, 0, 0⟩).2.1 = 1 := by
  unfold factors; norm_num [Trig.sqrt]

/-- with the factor derived from three distinct atom positions a hydrogen-bond energy never exceeds `|dpka_max|` -/
theorem hbond_geometric_bound (p1 p2 p3 : P3 ℝ) (dist dmax c1 c2 : ℝ) (hc : c1 < c2)
    (h12 : 0 < (p1.x - p2.x) * (p1.x - p2.x) + (p1.y - p2.y) * (p1.y - p2.y) + (p1.z - p2.z) * (p1.z - p2.z))
    (h23 : 0 < (p2.x - p3.x) * (p2.x - p3.x) + (p2.y - p3.y) * (p2.y - p3.y) + (p2.z - p3.z) * (p2.z - p3.z)) :
    Propka.Energy.hbondEnergy dist dmax c1 c2 (factors p1 p2 p3).2.1 ≤ |dmax| :=
  (Propka.Energy.hbond_range dist dmax c1 c2 _ hc).2.trans
    (mul_le_of_le_one_right (abs_nonneg dmax) (f_angle_range p1 p2 p3 h12 h23))
end Propka.Angle

namespace Propka.Dets
/-- **Averages stay in range**: if a quantity lies in `[a, b]` in every conformation that contains the group (a buried
    fraction in [0, 1], a desolvation penalty of fixed sign), so does the value reported for the average. -/
theorem average_in_range (xs : List ℚ) (hne : xs ≠ []) (a b : ℚ) (h : ∀ x ∈ xs, a ≤ x ∧ x ≤ b) :
    a ≤ avgScalar 0 xs ∧ avgScalar 0 xs ≤ b := by
  rw [scalar_average_is_mean]
  have hpos : (0 : ℚ) < xs.length := Nat.cast_pos.mpr (List.length_pos_iff.mpr hne)
  rw [le_div_iff₀ hpos, div_le_iff₀ hpos, mul_comm a, mul_comm b, ← nsmul_eq_mul, ← nsmul_eq_mul]
  exact ⟨List.card_nsmul_le_sum xs a fun x hx => (h x hx).1, List.sum_le_card_nsmul xs b fun x hx => (h x hx).2⟩

example : avgScalar (0 : ℚ) [1, 1/2] = 3/4 := by unfold avgScalar; norm_num
end Propka.Dets

namespace Propka.Scoring
open Propka.Energy

theorem zero_eq : (zero : ℝ) = 0 := Nat.cast_zero

variable {p : SP ℝ} {env : Env ℝ} {atoms : Tab AtomT} {groups : Tab (GroupT ℝ)}

theorem buried_unit (p : SP ℝ) (groups : Tab (GroupT ℝ)) (nv : Nat → Nat) (g : Nat) :
    0 ≤ buriedOf p groups nv g ∧ buriedOf p groups nv g ≤ 1 := by
  unfold buriedOf
  split
  · exact weight_unit _ _
  · rw [zero_eq]; exact ⟨le_refl _, zero_le_one⟩

theorem evolOf_sign (h : WellFormed p.ep) (vol : Nat → ℝ) (nv : Nat → Nat) (g : Nat) :
    ((gget groups g).q < 0 → 0 ≤ evolOf p groups vol nv g) ∧ (0 < (gget groups g).q → evolOf p groups vol nv g ≤ 0) := by
  unfold evolOf
  split
  · exact desolvation_sign p.ep h _ _ _ (buried_unit p groups nv g).1 (buried_unit p groups nv g).2
  · rw [zero_eq]; exact ⟨fun _ => le_rfl, fun _ => le_rfl⟩

theorem elocOf_nonneg (h : WellFormed p.ep) (nv : Nat → Nat) (g : Nat) : 0 ≤ elocOf p env groups nv g := by
  unfold elocOf
  split
  · exact reorganisation_nonneg p.ep h _ _ (buried_unit p groups nv g).1
  · rw [zero_eq]

/-- **Desolvation terms and buried fraction of every record.** -/
theorem score_desolvation_signs (p : SP ℝ) (h : WellFormed p.ep) (env : Env ℝ) (atoms : Tab AtomT) (groups : Tab (GroupT ℝ))
    (g : Nat) (hg : g < groups.n) :
    ∃ o, (score p env atoms groups)[g]? = some o ∧ 0 ≤ o.buried ∧ o.buried ≤ 1 ∧
      ((gget groups g).q < 0 → 0 ≤ o.evol) ∧ (0 < (gget groups g).q → o.evol ≤ 0) ∧ 0 ≤ o.eloc := by
  obtain ⟨o, ho, hb, hv, hl, _⟩ := record_unfold p env atoms groups g hg
  refine ⟨o, ho, ?_⟩
  rw [hb, hv, hl]
  exact ⟨(buried_unit ..).1, (buried_unit ..).2, (evolOf_sign h ..).1, (evolOf_sign h ..).2, elocOf_nonneg h ..⟩

theorem bbDets_form {g : Nat} {d : Det ℝ} (h : d ∈ bbDets p env atoms groups g) :
    ∃ e : ℝ, 0 ≤ e ∧ d.value = (gget groups g).q * e := by
  unfold bbDets at h
  split at h
  · obtain ⟨b, _, hb⟩ := List.mem_filterMap.mp h
    obtain ⟨r, v, _, hv, rfl⟩ := bbDet_eq_some hb
    obtain ⟨prm, _, _, rfl⟩ := bbValue_eq_some hv
    exact ⟨_, hbond_nonneg .., rfl⟩
  · nomatch h

/-- **Every backbone determinant of every record is the group's charge times a non-negative hydrogen-bond energy**, so it
    never raises an acid's pKa nor lowers a base's. -/
theorem score_backbone_dets (p : SP ℝ) (env : Env ℝ) (atoms : Tab AtomT) (groups : Tab (GroupT ℝ)) (g : Nat) (hg : g < groups.n) :
    ∃ o, (score p env atoms groups)[g]? = some o ∧
      ∀ d ∈ o.bb, ∃ e : ℝ, 0 ≤ e ∧ d.value = (gget groups g).q * e ∧
        ((gget groups g).q < 0 → d.value ≤ 0) ∧ (0 < (gget groups g).q → 0 ≤ d.value) := by
  obtain ⟨o, ho, _, _, _, hbb, _⟩ := record_unfold p env atoms groups g hg
  refine ⟨o, ho, fun d hd => ?_⟩
  obtain ⟨e, he, hde⟩ := bbDets_form (hbb d hd)
  rw [hde]
  exact ⟨e, he, rfl, backbone_sign _ e he⟩

theorem coulVal_range (h : WellFormed p.ep) {g1 g2 : GroupT ℝ} {n1 n2 dist v : ℝ} (hv : coulVal p g1 g2 n1 n2 dist = some v) :
    0 ≤ v ∧ v ≤ p.ep.cscale / (p.ep.diel2 * p.ep.cc1) := by
  unfold coulVal at hv
  split at hv
  · rw [← Option.some.inj hv]
    exact coulomb_range p.ep h _ _ (pair_weight_unit ..).1 (pair_weight_unit ..).2
  · nomatch hv

/-- **Every ion determinant is minus the ion's charge times a Coulomb energy between 0 and the configured maximum.** -/
theorem score_ion_dets (p : SP ℝ) (h : WellFormed p.ep) (env : Env ℝ) (groups : Tab (GroupT ℝ)) (nv : Nat → Nat) (g : Nat) :
    ∀ d ∈ ionDets p env groups nv g, ∃ e : ℝ, 0 ≤ e ∧ e ≤ p.ep.cscale / (p.ep.diel2 * p.ep.cc1) ∧
      d.value = -(gget groups d.partner).q * e := by
  intro d hd
  unfold ionDets at hd
  split at hd
  · obtain ⟨i, _, hi⟩ := List.mem_filterMap.mp hd
    unfold ionDet at hi
    split at hi
    · rw [← Option.some.inj hi]
      have hw := pair_weight_unit p.ep ((nv g : ℕ) : ℝ) ((nv i : ℕ) : ℝ)
      exact ⟨_, (coulomb_range p.ep h _ _ hw.1 hw.2).1, (coulomb_range p.ep h _ _ hw.1 hw.2).2, rfl⟩
    · nomatch hi
  · nomatch hd

/-- **Every non-iterative Coulomb determinant is an output of the Coulomb pair rule, applied to a pair the loop visited,
    with a Coulomb energy between 0 and the configured maximum**; every non-iterative side-chain determinant is an output
    of the side-chain pair rule.  (`coulomb_pair_signs`, `sidechain_pair_signs` then give the signs.) -/
theorem pair_dets_from_rules (p : SP ℝ) (h : WellFormed p.ep) (env : Env ℝ) (atoms : Tab AtomT) (groups : Tab (GroupT ℝ)) (nv : Nat → Nat)
    (e : Em ℝ) (he : e ∈ nonIterEms (pairResults p env atoms groups nv)) :
    ∃ ab ∈ visited groups, ∃ v : ℝ,
      (e.kind = .coulomb ∧ 0 ≤ v ∧ v ≤ p.ep.cscale / (p.ep.diel2 * p.ep.cc1) ∧
        e ∈ tagOut ab.1 ab.2 .coulomb (coulombRule (gget groups ab.1).q (gget groups ab.2).q (gget groups ab.1).model (gget groups ab.2).model v)) ∨
      (e.kind = .sidechain ∧
        e ∈ tagOut ab.1 ab.2 .sidechain (sidechainRule (gget groups ab.1).q (gget groups ab.2).q (gget groups ab.1).model (gget groups ab.2).model v)) := by
  obtain ⟨ab, hab, her⟩ := mem_nonIterEms.mp he
  refine ⟨ab, hab, ?_⟩
  obtain ⟨v, _, hm⟩ | ⟨v, hv, hm⟩ := mem_pairStep_ems her
  · exact ⟨v, Or.inr ⟨(mem_tagOut hm).1, hm⟩⟩
  · exact ⟨v, Or.inl ⟨(mem_tagOut hm).1, (coulVal_range h hv).1, (coulVal_range h hv).2, hm⟩⟩

theorem inters_from_pairs (h : WellFormed p.ep) {nv : Nat → Nat} {it : Iter.Inter ℝ}
    (hit : it ∈ iterInters (pairResults p env atoms groups nv)) :
    (it.g1, it.g2) ∈ visited groups ∧ 0 ≤ it.coul ∧ it.coul ≤ p.ep.cscale / (p.ep.diel2 * p.ep.cc1) := by
  obtain ⟨ab, hab, hri⟩ := mem_iterInters.mp hit
  rw [pairStep_inter hri]
  refine ⟨hab, ?_⟩
  cases hc : coulVal p (gget groups ab.1) (gget groups ab.2) ((nv ab.1 : ℕ) : ℝ) ((nv ab.2 : ℕ) : ℝ) (Trig.sqrt (env.sqGG ab.1 ab.2)) with
  | none => exact zero_eq.symm ▸ ⟨le_rfl, div_nonneg h.cs (mul_nonneg h.diel.1.le h.cc.1.le)⟩
  | some v => exact coulVal_range h hc

theorem iterKind_inj {k k' : Iter.Kind} (h : iterKind k = iterKind k') : k = k' := by
  cases k <;> cases k' <;> first | rfl | nomatch h

theorem mem_iterEms {st : Nat → Stage ℝ} {inters : List (Iter.Inter ℝ)} {g partner : Nat} {k : Iter.Kind} {v : ℝ}
    (h : (⟨g, partner, iterKind k, v⟩ : Em ℝ) ∈ iterEms p groups st inters) :
    ∃ it ∈ inters, ∃ old ann, (⟨g, partner, k, v⟩ : Iter.Det ℝ) ∈ (Iter.interStep p.minV (iterGroups p groups st) old it ann).1 := by
  obtain ⟨⟨_, _, _, _⟩, hd, he⟩ := List.mem_map.mp h
  obtain ⟨rfl, rfl, hk, rfl⟩ := Em.mk.inj he
  rw [← iterKind_inj hk]
  exact Iter.solve_dets _ _ _ _ hd

/-- **Every determinant of every final record was produced by one of the modelled rules** - a backbone hydrogen bond
    (charge times a non-negative energy), an ion (minus the ion's charge times a Coulomb energy in range), a non-iterative
    pair rule applied to a visited pair (Coulomb energy in range), or one of the iterative pair rules applied to a listed
    interaction that stems from a visited pair (Coulomb value in range) - whatever the structure. -/
theorem score_dets_from_rules (p : SP ℝ) (h : WellFormed p.ep) (env : Env ℝ) (atoms : Tab AtomT) (groups : Tab (GroupT ℝ))
    (g : Nat) (hg : g < groups.n) :
    ∃ o, (score p env atoms groups)[g]? = some o ∧
      (∀ d ∈ o.bb, ∃ e : ℝ, 0 ≤ e ∧ d.value = (gget groups g).q * e) ∧
      (∀ d ∈ o.cb,
        (∃ e : ℝ, 0 ≤ e ∧ e ≤ p.ep.cscale / (p.ep.diel2 * p.ep.cc1) ∧ d.value = -(gget groups d.partner).q * e) ∨
        (∃ ab ∈ visited groups, ∃ v : ℝ, 0 ≤ v ∧ v ≤ p.ep.cscale / (p.ep.diel2 * p.ep.cc1) ∧
          (⟨g, d.partner, .coulomb, d.value⟩ : Em ℝ) ∈ tagOut ab.1 ab.2 .coulomb
            (coulombRule (gget groups ab.1).q (gget groups ab.2).q (gget groups ab.1).model (gget groups ab.2).model v)) ∨
        (∃ it : Iter.Inter ℝ, (it.g1, it.g2) ∈ visited groups ∧ 0 ≤ it.coul ∧ it.coul ≤ p.ep.cscale / (p.ep.diel2 * p.ep.cc1) ∧
          ∃ gs old ann, (⟨g, d.partner, .coulomb, d.value⟩ : Iter.Det ℝ) ∈ (Iter.interStep p.minV gs old it ann).1)) ∧
      (∀ d ∈ o.sc,
        (∃ ab ∈ visited groups, ∃ v : ℝ, (⟨g, d.partner, .sidechain, d.value⟩ : Em ℝ) ∈ tagOut ab.1 ab.2 .sidechain
            (sidechainRule (gget groups ab.1).q (gget groups ab.2).q (gget groups ab.1).model (gget groups ab.2).model v)) ∨
        (∃ it : Iter.Inter ℝ, (it.g1, it.g2) ∈ visited groups ∧
          ∃ gs old ann, (⟨g, d.partner, .sidechain, d.value⟩ : Iter.Det ℝ) ∈ (Iter.interStep p.minV gs old it ann).1)) := by
  obtain ⟨o, ho, _, _, _, hbb, hcb, hsc⟩ := record_unfold p env atoms groups g hg
  refine ⟨o, ho, fun d hd => bbDets_form (hbb d hd), fun d hd => ?_, fun d hd => ?_⟩
  · rcases hcb d hd with h1 | h2 | h3
    · exact Or.inl (score_ion_dets p h env groups _ g d h1)
    · obtain ⟨ab, hab, v, ⟨_, h0, hb, hmem⟩ | ⟨hk, _⟩⟩ := pair_dets_from_rules p h env atoms groups _ _ (mem_emsOf h2)
      · exact Or.inr (Or.inl ⟨ab, hab, v, h0, hb, hmem⟩)
      · nomatch hk
    · obtain ⟨it, hit, old, ann, hd'⟩ := mem_iterEms (k := .coulomb) (mem_emsOf h3)
      obtain ⟨hv, h0, hb⟩ := inters_from_pairs h hit
      exact Or.inr (Or.inr ⟨it, hv, h0, hb, _, old, ann, hd'⟩)
  · rcases hsc d hd with h2 | h3
    · obtain ⟨ab, hab, v, ⟨hk, _⟩ | ⟨_, hmem⟩⟩ := pair_dets_from_rules p h env atoms groups _ _ (mem_emsOf h2)
      · nomatch hk
      · exact Or.inl ⟨ab, hab, v, hmem⟩
    · obtain ⟨it, hit, old, ann, hd'⟩ := mem_iterEms (k := .sidechain) (mem_emsOf h3)
      exact Or.inr ⟨it, (inters_from_pairs h hit).1, _, old, ann, hd'⟩

end Propka.Scoring
