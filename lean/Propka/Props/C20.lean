import Propka.Proofs.Rotation
/-! # C20 — rotation about an axis is the right-handed (Rodrigues) rotation, for every axis

`rotateAround` is the model of `propka.vector_algebra.rotate_vector_around_an_axis`, here at `ℝ`
(`sin/cos/arcsin/arccos/sqrt/|·|/π` are Mathlib's); the same definition text runs at `Float` in the
driver and is compared with the real function by the correspondence check. -/
namespace Propka.Rot
open Real

/-- **Main theorem.** For every angle, every non-zero axis and every vector the code's result is the
    Rodrigues rotation about the unit vector along the axis — including every axis with zero
    components (along or opposite to a coordinate axis, in a coordinate plane). -/
theorem rotate_eq_rodrigues (θ : ℝ) (a v : V3 ℝ) (ha : a.x ≠ 0 ∨ a.y ≠ 0 ∨ a.z ≠ 0) :
    rotateAround θ a v = rodK (Real.cos θ) (Real.sin θ) (unit a) v :=
  rotate_eq_rodK θ a v (nrm_pos a ha).ne'

def dot (a b : V3 ℝ) : ℝ := a.x*b.x + a.y*b.y + a.z*b.z
def cross (a b : V3 ℝ) : V3 ℝ := ⟨a.y*b.z - a.z*b.y, a.z*b.x - a.x*b.z, a.x*b.y - a.y*b.x⟩
def sub (a b : V3 ℝ) : V3 ℝ := ⟨a.x - b.x, a.y - b.y, a.z - b.z⟩
def smul (t : ℝ) (a : V3 ℝ) : V3 ℝ := ⟨t*a.x, t*a.y, t*a.z⟩

theorem unit_dot_unit (a : V3 ℝ) (ha : a.x ≠ 0 ∨ a.y ≠ 0 ∨ a.z ≠ 0) : dot (unit a) (unit a) = 1 := by
  rw [show dot (unit a) (unit a) = (a.x*a.x + a.y*a.y + a.z*a.z) / (nrm a * nrm a) by simp only [dot, unit]; ring,
    nrm, mul_self_sqrt (sumsq_pos ha).le, div_self (sumsq_pos ha).ne']

theorem dot_rotZ (t : ℝ) (a b : V3 ℝ) : dot (rotZ t a) (rotZ t b) = dot a b := by
  simp only [dot, rotZ, Trig.cos, Trig.sin]
  linear_combination (a.x*b.x + a.y*b.y) * cos_sq_add_sin_sq t

theorem dot_rotY (t : ℝ) (a b : V3 ℝ) : dot (rotY t a) (rotY t b) = dot a b := by
  simp only [dot, rotY, Trig.cos, Trig.sin]
  linear_combination (a.x*b.x + a.z*b.z) * cos_sq_add_sin_sq t

/-- a composition of five elementary rotations, whatever the axis (zero included) -/
theorem dot_rotateAround (θ : ℝ) (a v w : V3 ℝ) : dot (rotateAround θ a v) (rotateAround θ a w) = dot v w := by
  rw [rotateAround_eq, rotateAround_eq, dot_rotZ, dot_rotY, dot_rotZ, dot_rotY, dot_rotZ]

/-- **Length is preserved.** -/
theorem norm_preserved (θ : ℝ) (a v : V3 ℝ) (ha : a.x ≠ 0 ∨ a.y ≠ 0 ∨ a.z ≠ 0) :
    dot (rotateAround θ a v) (rotateAround θ a v) = dot v v :=
  dot_rotateAround θ a v v

theorem dot_rodK_axis (c s : ℝ) (k v : V3 ℝ) (hk : dot k k = 1) : dot k (rodK c s k v) = dot k v := by
  simp only [dot, rodK] at *
  linear_combination ((k.x*v.x + k.y*v.y + k.z*v.z) * (1 - c)) * hk

/-- **The component along the axis is preserved.** -/
theorem axial_component_preserved (θ : ℝ) (a v : V3 ℝ) (ha : a.x ≠ 0 ∨ a.y ≠ 0 ∨ a.z ≠ 0) :
    dot (unit a) (rotateAround θ a v) = dot (unit a) v := by
  rw [rotate_eq_rodrigues θ a v ha, dot_rodK_axis _ _ _ _ (unit_dot_unit a ha)]

/-- the part of `v` perpendicular to the unit vector `k` -/
def perp (k v : V3 ℝ) : V3 ℝ := sub v (smul (dot k v) k)

theorem perp_rodK (c s : ℝ) (k v : V3 ℝ) (hk : dot k k = 1) :
    dot (perp k (rodK c s k v)) (perp k v) = dot (perp k v) (perp k v) * c ∧
    dot (cross (perp k v) (perp k (rodK c s k v))) k = dot (perp k v) (perp k v) * s := by
  simp only [perp, dot_rodK_axis c s k v hk]
  simp only [dot, rodK, sub, smul, cross] at *
  constructor
  · ring
  · linear_combination (s * ((v.x*v.x + v.y*v.y + v.z*v.z) - (k.x*v.x + k.y*v.y + k.z*v.z)^2)) * hk

/-- **The perpendicular component turns by exactly θ, right-handedly**: with `w` the perpendicular
    part of `v` and `w'` that of the rotated vector, `w'·w = |w|² cos θ` and `(w × w')·k = |w|² sin θ`. -/
theorem perp_turns_by_theta (θ : ℝ) (a v : V3 ℝ) (ha : a.x ≠ 0 ∨ a.y ≠ 0 ∨ a.z ≠ 0) :
    let k := unit a
    let w := perp k v
    let w' := perp k (rotateAround θ a v)
    dot w' w = dot w w * Real.cos θ ∧ dot (cross w w') k = dot w w * Real.sin θ := by
  intro k w w'
  have h := perp_rodK (Real.cos θ) (Real.sin θ) (unit a) v (unit_dot_unit a ha)
  rwa [← rotate_eq_rodrigues θ a v ha] at h

/-- axis opposite to z (the family on which the unrepaired code rotated the wrong way):
    a quarter turn about −z takes x to −y -/
example : rotateAround (Real.pi / 2) (⟨0, 0, -1⟩ : V3 ℝ) ⟨1, 0, 0⟩ = ⟨0, -1, 0⟩ := by
  rw [rotate_eq_rodrigues _ _ _ (Or.inr (Or.inr (by norm_num)))]
  have hn : nrm (⟨0, 0, -1⟩ : V3 ℝ) = 1 := by unfold nrm; simp
  simp [rodK, unit, hn]

/-- a quarter turn about +z takes x to +y -/
example : rotateAround (Real.pi / 2) (⟨0, 0, 1⟩ : V3 ℝ) ⟨1, 0, 0⟩ = ⟨0, 1, 0⟩ := by
  rw [rotate_eq_rodrigues _ _ _ (Or.inr (Or.inr (by norm_num)))]
  have hn : nrm (⟨0, 0, 1⟩ : V3 ℝ) = 1 := by unfold nrm; simp
  simp [rodK, unit, hn]

end Propka.Rot
