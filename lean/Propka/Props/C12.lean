import Propka.Proofs.Groups
import Propka.Props.C07
import Propka.Model.Setup
/-! # C12 — incomplete structures degrade gracefully (the parts that are decision logic)

Parser: whether a line can be converted does not depend on what came before it, so deleting any
records from a file that parses leaves a file that parses.  Census: a group is a function of its own
defining atom, so removing other atoms never removes it.  Set-up (`Propka.Setup`): the atom list handed to `set_center` is
empty only for a carboxylate-type ligand group without oxygens, and the interaction atoms of a group lie within two bonds of it. -/
namespace Propka.Pdb
open Propka.Py

def isOk {ε α : Type} : Except ε α → Bool
  | .ok _ => true
  | .error _ => false

theorem stepLine_ok_indep (o : Opts) (s s' : PState) (l : Str) : isOk (stepLine o s l) = isOk (stepLine o s' l) := by
  unfold stepLine
  cases lineCheck o l with
  | error e => rfl
  | ok u =>
    dsimp only
    cases atomKind (classify o l) && !(classify o l).skip
    · simp only [isOk, Bool.false_eq_true, if_false]
    · rw [mkAtom_stored l (confName _ l), mkAtom_stored l (confName _ l)]
      cases mkAtom l "" "" <;> simp only [isOk, if_true] <;> rfl

theorem parseFrom_ok (o : Opts) (s : PState) (ls : List Str) :
    isOk (parseFrom o s ls) = ls.all fun l => isOk (stepLine o PState.init l) := by
  induction ls generalizing s with
  | nil => rfl
  | cons l ls ih =>
    rw [List.all_cons, ← stepLine_ok_indep o s, parseFrom]
    cases stepLine o s l with
    | error e => rfl
    | ok v =>
      rw [← ih v.1]
      cases h : parseFrom o v.1 ls <;> simp only [bind, Except.bind, h] <;> rfl

/-- **Removing records never makes the parser fail**: if a file is accepted, every file obtained by
    deleting any of its lines (single atoms, side chains, backbone atoms, whole residues, termini,
    TER/MODEL records) is accepted too. -/
theorem parse_ok_of_deletion (o : Opts) (lines kept : List Str) (hsub : kept.Sublist lines)
    (hok : isOk (parse o lines) = true) : isOk (parse o kept) = true := by
  unfold parse at *
  rw [parseFrom_ok, List.all_eq_true] at *
  exact fun l hl => hok l (hsub.subset hl)

/-- a file all of whose lines the parser passes over (no TER or MODEL, atom records of ignorable residues only) yields no
    conformation (the caller raises ValueError) -/
theorem no_atoms_no_conformations (o : Opts) (lines : List Str) (h : ∀ l ∈ lines, unused o l = true) : parse o lines = .ok [] := by
  rw [unused_records_have_no_effect, List.filter_eq_nil_iff.mpr fun l hl => by simp [h l hl]]
  rfl

end Propka.Pdb

namespace Propka.Groups

theorem mkGroup_atom (T : Tables) (to : Option (List (String × Int × String))) (a : AtomInfo) (g : GroupRec)
    (h : mkGroup T to a = some g) : g.atom = a := by
  obtain ⟨c, -, rfl⟩ := mkGroup_eq_some h
  rfl

/-- **Removing atoms never removes the group of an atom that remains**: the groups of a reduced atom
    list are exactly the groups of the full list whose defining atom was kept (as long as the kept
    atoms keep their own terminal tag, bonded-oxygen count and disulfide flag). -/
theorem census_monotone (T : Tables) (to : Option (List (String × Int × String))) (atoms : List AtomInfo) (p : AtomInfo → Bool) :
    extractGroups T to (atoms.filter p) = (extractGroups T to atoms).filter (fun g => p g.atom) := by
  -- both sides are one `filterMap` over `atoms`; the two selectors agree because a group carries its atom
  unfold extractGroups
  rw [List.filterMap_filter, List.filter_filterMap]
  congr 1
  funext a
  cases hg : mkGroup T to a with
  | none => exact ite_self _
  | some g => rw [Option.filter_some, mkGroup_atom T to a g hg]

end Propka.Groups

namespace Propka.Setup
open Propka.Scoring

/-- only one exit of `clsOf` names the shape whose centre may be empty -/
theorem clsOf_oco (name : String) : clsOf name = some .oco → name = "OCOGroup" := by
  let Q : Option Cls → Prop := fun o => o = some .oco → name = "OCOGroup"
  have skip : ∀ {c : Prop} [Decidable c] {sh : Cls} {o : Option Cls}, sh ≠ .oco → Q o → Q (if c then some sh else o) :=
    fun h ho => iteInduction (fun _ e => absurd (Option.some.inj e) h) fun _ => ho
  show Q _
  unfold clsOf
  -- one `skip` per branch of `clsOf`, in its order; the twelfth is the exit for `OCOGroup`
  exact skip nofun <| skip nofun <| skip nofun <| skip nofun <| skip nofun <| skip nofun <| skip nofun <| skip nofun <|
    skip nofun <| skip nofun <| skip nofun <| iteInduction (fun h _ => eq_of_beq h) fun _ => skip nofun nofun

theorem orSelf_ne_nil (l : List Nat) (a : Nat) : (if l.isEmpty then [a] else l) ≠ [] := by
  cases l <;> exact List.cons_ne_nil _ _

/-- **`setup_atoms` never fails except for a carboxylate-type ligand group without oxygens**: for every group class but `OCO`
    the list handed to `set_center` is non-empty whatever atoms and bonds are present (every branch falls back to the group's
    own atom), so `set_center` does not raise; for `OCO` the list is exactly the oxygens bonded to the atom (`setup_oco`). -/
theorem setup_total (atoms : Tab AtomT) (c : Cls) (a : Nat) (hc : c ≠ .oco) : (setupAtoms atoms c a).centre ≠ [] := by
  cases c
  case oco => exact absurd rfl hc
  case coo => exact orSelf_ne_nil _ a
  case his => exact orSelf_ne_nil _ a
  case amd =>
    exact iteInduction (motive := fun (r : Res) => r.centre ≠ []) (fun _ => List.cons_ne_nil _ _) fun h =>
      List.append_ne_nil_of_left_ne_nil (fun e => h (by rw [e]; rfl)) _
  case cterm => dsimp only [setupAtoms]; split <;> exact List.cons_ne_nil _ _
  all_goals exact List.cons_ne_nil a []

theorem setup_oco (atoms : Tab AtomT) (a : Nat) : (setupAtoms atoms .oco a).centre = bondedEl atoms a "O" := rfl

/-- within two bonds of `a` -/
def near2 (atoms : Tab AtomT) (a x : Nat) : Prop :=
  x = a ∨ x ∈ (aget atoms a).bonded ∨ ∃ n ∈ (aget atoms a).bonded, x ∈ (aget atoms n).bonded

theorem bondedEl_subset (atoms : Tab AtomT) (a : Nat) (el : String) : bondedEl atoms a el ⊆ (aget atoms a).bonded :=
  List.filter_sublist.subset

/-- Every atom of `l` lies within two bonds of `a`.  The lists `setupAtoms` returns are put together from `[a]`, `bondedEl` of `a`
    or of one of its neighbours and `hydrogensOf` of neighbours by `++`, `filter`, `erase` and `if`; the lemmas below say that
    each of these keeps the property. -/
def Near (atoms : Tab AtomT) (a : Nat) (l : List Nat) : Prop := ∀ x ∈ l, near2 atoms a x

namespace Near
variable {atoms : Tab AtomT} {a n : Nat} {l l' ns : List Nat} {el : String}

theorem nil : Near atoms a [] := nofun

theorem self : Near atoms a [a] := fun _ h => .inl (List.mem_singleton.mp h)

theorem append (h : Near atoms a l) (h' : Near atoms a l') : Near atoms a (l ++ l') := List.forall_mem_append.mpr ⟨h, h'⟩

theorem subset (h : Near atoms a l) (hs : l' ⊆ l) : Near atoms a l' := fun x hx => h x (hs hx)

theorem bonded : Near atoms a (bondedEl atoms a el) := fun _ hx => .inr (.inl (bondedEl_subset atoms a el hx))

theorem bondedOf (hn : n ∈ (aget atoms a).bonded) : Near atoms a (bondedEl atoms n el) :=
  fun _ hx => .inr (.inr ⟨n, hn, bondedEl_subset atoms n el hx⟩)

theorem hydrogens (h : ns ⊆ (aget atoms a).bonded) : Near atoms a (hydrogensOf atoms ns) := fun x hx =>
  have ⟨_, hn, hx⟩ := List.mem_flatMap.mp hx
  bondedOf (h hn) x hx

theorem bondedHead (h : ns ⊆ (aget atoms a).bonded) : Near atoms a (bondedEl atoms (ns.headD a) el) := by
  cases ns with
  | nil => exact bonded
  | cons n _ => exact bondedOf (h List.mem_cons_self)
end Near

/-- the three lists of every class but HIS (whose set-up walks a ring) stay within two bonds of the group's atom -/
theorem setup_near (atoms : Tab AtomT) (a : Nat) : ∀ c, c ≠ .his →
    Near atoms a (setupAtoms atoms c a).acid ∧ Near atoms a (setupAtoms atoms c a).base ∧ Near atoms a (setupAtoms atoms c a).centre
  | .his, h => absurd rfl h
  | .self, _ => ⟨.self, .self, .self⟩
  | .coo, _ => ⟨.bonded, .bonded, iteInduction (fun _ => .self) fun _ => .bonded⟩
  | .arg, _ => ⟨.append .bonded (.hydrogens (bondedEl_subset ..)), .bonded, .self⟩
  | .amd, _ =>
    iteInduction (motive := fun (r : Res) => Near atoms a r.acid ∧ Near atoms a r.base ∧ Near atoms a r.centre)
      (fun _ => ⟨.nil, .nil, .self⟩) fun _ =>
      ⟨.append .bonded (.bondedHead (bondedEl_subset ..)), .bonded, .append .bonded .bonded⟩
  | .trp, _ => ⟨.append .bonded .self, .self, .self⟩
  | .cterm, _ => by
    dsimp only [setupAtoms]
    split
    · exact ⟨.nil, .nil, .self⟩
    · next c0 _ h =>
      have : Near atoms a ([a] ++ (bondedEl atoms c0 "O").erase a) :=
        .append .self ((Near.bondedOf (bondedEl_subset atoms a "C" (h ▸ List.mem_cons_self))).subset List.erase_subset)
      exact ⟨this, this, this⟩
  | .hSelfBoth, _ => ⟨.append .bonded .self, .append .bonded .self, .self⟩
  | .bbc, _ => ⟨.bonded, .bonded, .self⟩
  | .cg, _ => ⟨.append (.hydrogens (bondedEl_subset ..)) .bonded, .bonded, .self⟩
  | .c2n, _ =>
    ⟨.append (.hydrogens (List.filter_sublist.subset.trans (bondedEl_subset ..))) (Near.bonded.subset List.filter_sublist.subset),
      Near.bonded.subset List.filter_sublist.subset, .self⟩
  | .oco, _ => ⟨.bonded, .bonded, .bonded⟩
  | .hSelfAcid, _ => ⟨.append .bonded .self, .self, .self⟩

/-- **The interaction atoms of a group lie within two bonds of its defining atom** (for every class whose set-up does not
    search a ring): the atom itself, its neighbours, and hydrogens or oxygens on those neighbours.  With C11 (bonds join atoms
    at most 2.5 A apart) this is why the interaction atoms of a part of a structure belong to that part. -/
theorem interaction_atoms_near (atoms : Tab AtomT) (c : Cls) (a : Nat) (hc : c ≠ .his) (x : Nat)
    (hx : x ∈ (setupAtoms atoms c a).acid ∨ x ∈ (setupAtoms atoms c a).base ∨ x ∈ (setupAtoms atoms c a).centre) : near2 atoms a x :=
  have ⟨h1, h2, h3⟩ := setup_near atoms a c hc
  hx.elim (h1 x) fun h => h.elim (h2 x) (h3 x)

end Propka.Setup
