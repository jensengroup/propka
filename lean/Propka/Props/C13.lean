import Propka.Proofs.Pdb
/-! # C13 — selecting chains equals deleting the other chains from the file

`parse` is the model of `get_atom_lines_from_pdb` (the only place where the `chains` option is
read).  The theorem is about the concrete line parser, for every list of lines. -/
namespace Propka.Pdb
open Propka.Py

/-- an ATOM/HETATM record whose chain column is not among the selected identifiers -/
def otherChain (S : List String) (l : Str) : Bool := isAtomLine l && !S.contains (str (slice l 21 22))

theorem stepLine_dropped (o : Opts) (S : List String) (hS : S ≠ []) (s : PState) (l : Str)
    (hd : otherChain S l = true) (hlen : 21 < l.length) :
    stepLine { o with chains := S } s l = pure (s, none) := by
  unfold otherChain at hd
  simp only [Bool.and_eq_true, Bool.not_eq_true'] at hd
  refine stepLine_passed _ s l (lineCheck_atom _ l hd.1 (by omega) (.inr (.inr hlen))) ?_
  rw [passed_classify, hd.1, isSkipped, hd.2, List.isEmpty_eq_false_iff.mpr hS]
  simp

theorem stepLine_kept (o : Opts) (S : List String) (s : PState) (l : Str)
    (hk : otherChain S l = false) (hlen : isAtomLine l = true → 21 < l.length) :
    stepLine { o with chains := S } s l = stepLine { o with chains := [] } s l := by
  -- an atom line of a selected chain is skipped under `S` exactly when it is under no selection: the chain test is not the reason
  refine stepLine_congr _ _ s l (classify_congr _ _ l fun ha => by simp_all [otherChain, isSkipped]) ?_ rfl
  cases ha : isAtomLine l
  · rw [lineCheck_nonatom _ l ha, lineCheck_nonatom _ l ha]
  · have := hlen ha
    rw [lineCheck_atom _ l ha (by omega) (.inr (.inr this)), lineCheck_atom _ l ha (by omega) (.inr (.inr this))]

/-- **Main theorem.** For every list of lines and every non-empty selection `S`, parsing with the
    selection gives exactly the atom records (fields, conformation names, `N+`/`C-` tags) obtained by
    parsing, without selection, the file from which every ATOM/HETATM record of another chain was
    deleted.  (`hlen`: atom records reach at least the chain column.) -/
theorem chains_eq_delete (o : Opts) (S : List String) (hS : S ≠ []) (lines : List Str)
    (hlen : ∀ l ∈ lines, isAtomLine l = true → 21 < l.length) :
    parse { o with chains := S } lines =
      parse { o with chains := [] } (lines.filter (fun l => !otherChain S l)) :=
  parseFrom_filter _ _ (otherChain S) lines
    (fun l hl hd s => stepLine_dropped o S hS s l hd (hlen l hl (Bool.and_eq_true_iff.mp hd).1))
    (fun l hl hd s => stepLine_kept o S s l hd (hlen l hl)) _

/-- a blank chain identifier is selected by a space: the selection test is on column 22 as it stands -/
theorem blank_chain_selected (l : Str) (h : str (slice l 21 22) = " ") : otherChain [" "] l = false := by
  simp [otherChain, h]

/-- records that are neither ATOM nor HETATM (TER, MODEL, anything else) are never deleted -/
theorem non_atom_kept (S : List String) (l : Str) (h : isAtomLine l = false) : otherChain S l = false := by
  simp [otherChain, h]

/-! ### Non-vacuity: a two-chain fragment with a TER, selection of chain B -/
def demo : List Str := [
  "ATOM      1  N   ALA A   1      11.104   6.134  -6.504  1.00  0.00           N\n".toList,
  "ATOM      2  CA  ALA A   1      11.639   6.071  -5.147  1.00  0.00           C\n".toList,
  "TER\n".toList,
  "ATOM      3  N   GLY B   1      21.104   6.134  -6.504  1.00  0.00           N\n".toList,
  "HETATM    4 CA    CA A 101      31.104   6.134  -6.504  1.00  0.00          CA\n".toList]

/-- the evaluation that the non-vacuity examples here and in `Props/Program` share -/
theorem demo_selected : (parse ⟨[], false, ["B"]⟩ demo).toOption.map (·.map (fun a => (a.name, a.chain, a.terminal)))
    = some [("N", "B", "N+")] ∧ (∀ l ∈ demo, isAtomLine l = true → 21 < l.length) := by
  unfold demo
  -- to the kernel a literal is `String.ofList` of its characters, so this rewriting costs nothing and hands it the five
  -- character lists; evaluating `toList` instead runs the UTF-8 encoder and decoder over them, many times the work of the parser
  repeat rw [String.toList_ofList]
  decide +kernel

example : (parse ⟨[], false, ["B"]⟩ demo).toOption.map (·.map (fun a => (a.name, a.chain, a.terminal)))
    = some [("N", "B", "N+")] ∧ (∀ l ∈ demo, isAtomLine l = true → 21 < l.length) := demo_selected

end Propka.Pdb
