import Propka.Proofs.Pipeline
import Propka.Props.C11
/-! Theorems about the set-up pipeline (`Model/Pipeline.lean`), for every input atom table, every parameter table and every
    scalar: the loop of `extract_groups` creates at most one group per atom, in atom order, only for non-hydrogen atoms of the
    list (C01), with model pKa and charge from the tables (C01); a bridged cysteine never titrates (C01, C11); the bonds of the
    bonding phase are those of the pairwise criterion (C11); `--titrate_only` changes nothing but the `titratable` and
    `exclude_cys_from_results` flags of the groups of unlisted residues - atoms, hydrogens built, group classes, centres and
    interaction atoms stay as they are -, a titratable group is always a listed one, and a list that holds the residue of every
    group is the same as not giving the option (C14). -/
namespace Propka.Pipe

section
variable {α : Type}

/-- what --titrate_only may change of a group -/
def eraseFlags (g : PGroup α) : PGroup α := { g with titratable := false, excludeCys := false }

theorem eraseFlags_applyTO (o : Opts) (g : PGroup α) : eraseFlags (applyTO o g) = eraseFlags g := by
  unfold applyTO
  split
  · rfl
  · split <;> rfl

/-- `init_group` never sets `titratable`: a group that has it afterwards was left as it is, and with the option it is listed -/
theorem applyTO_titratable (o : Opts) (g : PGroup α) (h : (applyTO o g).titratable = true) :
    applyTO o g = g ∧ ∀ l, o.titrateOnly = some l → l.contains g.key = true := by
  unfold applyTO at h ⊢
  split at h
  · next e => exact ⟨rfl, fun l hl => by rw [e] at hl; cases hl⟩
  · next l' e =>
    split at h
    · next hc => exact ⟨if_pos hc, fun l hl => by rw [e] at hl; cases hl; exact hc⟩
    · cases h
end

section
variable {α : Type} [Add α] [Sub α] [Mul α] [Div α] [Neg α] [OfNat α 0] [OfNat α 1] [OfNat α 2]
  [DecidableEq α] [LT α] [DecidableLT α] [Max α] [NatCast α] [Trig α] [Bonds.CellIdx α]

theorem foldl_extractStep_none (P : PP α) (o : Opts) (L : List Nat) : L.foldl (extractStep P o) none = none :=
  List.foldlRecOn (motive := (· = none)) L _ rfl fun _ h _ _ => by subst h; rfl

theorem mkGroupCore_some (P : PP α) (s s' : St α) (cls : String) (i : Nat) (g : PGroup α)
    (h : mkGroupCore P s cls i = some (s', g)) : ∃ s1 r, g = (buildGroup P s s1 cls i r).2 := by
  unfold mkGroupCore at h
  split at h
  · cases h
  · split at h
    · cases h
    · exact ⟨_, _, (Prod.ext_iff.mp (Option.some.inj h)).2.symm⟩

/-- **the loop of `extract_groups` looks neither at the option nor at the groups it has made**: it makes a state and a list of
    groups `t` (or raises); the option is applied to each group on its way into the list, and the list only grows.  The
    atoms of the groups made over the atoms `L` form a sublist of `L`. -/
theorem foldl_extractStep (P : PP α) (L : List Nat) (s : St α) :
    ∃ t : Option (St α × List (PGroup α)),
      (∀ r, t = some r → (r.2.map (·.atom)).Sublist L) ∧
      ∀ (o : Opts) (gs : List (PGroup α)),
        L.foldl (extractStep P o) (some (s, gs)) = t.map fun r => (r.1, gs ++ r.2.map (applyTO o)) := by
  induction L generalizing s with
  | nil => exact ⟨some (s, []), fun r hr => by cases hr; exact List.Sublist.slnil, fun o gs => by simp⟩
  | cons i L ih =>
    simp only [List.foldl_cons, extractStep]
    cases classOfAtom P s i with
    | mk s0 c =>
      cases c with
      | none =>
        obtain ⟨t, ht, heq⟩ := ih s0
        exact ⟨t, fun r hr => (ht r hr).cons i, heq⟩
      | some cls =>
        simp only
        cases hm : mkGroupCore P s0 cls i with
        | none => exact ⟨none, nofun, fun o gs => foldl_extractStep_none P o L⟩
        | some r =>
          obtain ⟨s1, res, hg⟩ := mkGroupCore_some P s0 r.1 cls i r.2 hm
          obtain ⟨t, ht, heq⟩ := ih r.1
          refine ⟨t.map fun r' => (r'.1, r.2 :: r'.2), fun r' hr' => ?_, fun o gs => ?_⟩
          · obtain ⟨r'', hr'', rfl⟩ := Option.map_eq_some_iff.mp hr'
            have : r.2.atom = i := by rw [hg]; rfl
            simpa [this] using (ht r'' hr'').cons_cons i
          · simp [heq, Option.map_map, Function.comp_def]

theorem heavyLive_nodup (s : St α) : (heavyLive s).Nodup :=
  List.nodup_range.filter _

/-- **C01 (every group exactly once)**: whatever the atoms, tables and options, the atoms that define the groups of a
    conformation form a sublist of its non-hydrogen atoms in list order: no atom defines two groups, no hydrogen and no atom
    outside the list defines one, and the groups come in atom order. -/
theorem extract_groups_once (P : PP α) (o : Opts) (s s' : St α) (gs : List (PGroup α))
    (h : extractGroups P o s = some (s', gs)) :
    (gs.map (·.atom)).Sublist (heavyLive s) ∧ (gs.map (·.atom)).Nodup := by
  obtain ⟨t, ht, heq⟩ := foldl_extractStep P (heavyLive s) s
  rw [extractGroups, heq] at h
  obtain ⟨r, hr, he⟩ := Option.map_eq_some_iff.mp h
  cases he
  have hat : ∀ g : PGroup α, (applyTO o g).atom = g.atom := fun g =>
    show (eraseFlags (applyTO o g)).atom = (eraseFlags g).atom by rw [eraseFlags_applyTO]
  simp only [List.nil_append, List.map_map, Function.comp_def, hat]
  exact ⟨ht r hr, (ht r hr).nodup (heavyLive_nodup s)⟩

/-- an atom that defines a group is a non-hydrogen atom of the list -/
theorem extract_groups_heavy (P : PP α) (o : Opts) (s s' : St α) (gs : List (PGroup α))
    (h : extractGroups P o s = some (s', gs)) (g : PGroup α) (hg : g ∈ gs) :
    g.atom < s.size ∧ (at' s g.atom).live = true ∧ (at' s g.atom).elem ≠ "H" := by
  have hm : g.atom ∈ heavyLive s := (extract_groups_once P o s s' gs h).1.subset (List.mem_map_of_mem hg)
  unfold heavyLive at hm
  simp only [List.mem_filter, List.mem_range, Bool.and_eq_true, bne_iff_ne, ne_eq] at hm
  exact hm

/-- **C01 / C11**: a group whose atom carries the disulfide flag is never titratable -/
theorem bridged_not_titratable (P : PP α) (o : Opts) (s s' : St α) (cls : String) (i : Nat) (g : PGroup α)
    (h : mkGroupCore P s cls i = some (s', g)) (hb : (at' s i).bridged = true) : (applyTO o g).titratable = false := by
  obtain ⟨s1, r, rfl⟩ := mkGroupCore_some P s s' cls i g h
  refine eq_false_of_ne_true fun ht => ?_
  rw [(applyTO_titratable o _ ht).1] at ht
  simp [buildGroup, hb] at ht

/-- **C01 (the tabulated model pKa of its type)**: the model pKa a group is created with is the entry of the parameter file for its
    residue type - or the custom entry for its residue and atom name when there is one -, and its charge is the entry of its group
    type, or of its ion; nothing else enters (whatever the atoms, bonds and geometry). -/
theorem group_model_from_tables (P : PP α) (s s' : St α) (cls : String) (i : Nat) (g : PGroup α)
    (h : mkGroupCore P s cls i = some (s', g)) :
    (g.modelSet = (Groups.lookup P.T.modelPkas g.resType).isSome) ∧
    (∀ p, Groups.lookup P.T.modelPkas g.resType = some p →
      g.model = P.micro ((Groups.lookup P.T.customPkas (Groups.strip (at' s i).resName ++ "-" ++ Groups.strip (at' s i).name)).getD p)) ∧
    (g.q = match Groups.lookup P.T.ions g.resType with
           | some q => P.micro q
           | none => (match Groups.lookup P.T.charge g.type with | some q => P.micro q | none => P.ofInt 0)) := by
  obtain ⟨s1, r, rfl⟩ := mkGroupCore_some P s s' cls i g h
  simp only [buildGroup]
  refine ⟨?_, ?_, rfl⟩
  · cases Groups.lookup P.T.modelPkas _ <;> rfl
  · intro p hp
    rw [hp]

/-- **C14 (the environment is kept)**: with any --titrate_only list the set-up of a conformation builds the same hydrogens,
    leaves the same atom states and creates the same groups - class, type, label, charge, model pKa, centre, interaction atoms -
    as without the option; only the `titratable` / `exclude_cys_from_results` flags can differ. -/
theorem titrate_only_keeps_environment (P : PP α) (pa : Bool) (l : List (String × Int × String)) (s : St α) :
    (extractGroups P ⟨pa, some l⟩ s).map (fun r => (r.1, r.2.map eraseFlags)) =
    (extractGroups P ⟨pa, none⟩ s).map (fun r => (r.1, r.2.map eraseFlags)) := by
  obtain ⟨t, _, heq⟩ := foldl_extractStep P (heavyLive s) s
  simp only [extractGroups, heq, Option.map_map, Function.comp_def, List.nil_append, List.map_map, eraseFlags_applyTO]

/-- **C14 (only listed residues titrate)**: with a --titrate_only list every titratable group of the conformation
    belongs to a residue (chain, number, insertion code) on the list. -/
theorem titrate_only_listed (P : PP α) (pa : Bool) (l : List (String × Int × String)) (s s' : St α) (gs : List (PGroup α))
    (h : extractGroups P ⟨pa, some l⟩ s = some (s', gs)) (g : PGroup α) (hg : g ∈ gs) (ht : g.titratable = true) :
    l.contains g.key = true := by
  obtain ⟨t, _, heq⟩ := foldl_extractStep P (heavyLive s) s
  rw [extractGroups, heq] at h
  obtain ⟨r, _, he⟩ := Option.map_eq_some_iff.mp h
  cases he
  obtain ⟨g0, _, rfl⟩ := List.mem_map.mp hg
  obtain ⟨e, hl⟩ := applyTO_titratable _ g0 ht
  rw [e]
  exact hl l rfl

theorem foldl_extractStep_of_listed (P : PP α) (pa : Bool) (l : List (String × Int × String)) (L : List Nat)
    (acc : Option (St α × List (PGroup α)))
    (hl : ∀ r, L.foldl (extractStep P ⟨pa, none⟩) acc = some r → ∀ g ∈ r.2, l.contains g.key = true) :
    L.foldl (extractStep P ⟨pa, some l⟩) acc = L.foldl (extractStep P ⟨pa, none⟩) acc := by
  cases acc with
  | none => rw [foldl_extractStep_none, foldl_extractStep_none]
  | some a =>
    obtain ⟨t, _, heq⟩ := foldl_extractStep P L a.1
    rw [heq] at hl ⊢
    rw [heq]
    cases t with
    | none => rfl
    | some r =>
      have hg : ∀ g ∈ r.2, applyTO ⟨pa, some l⟩ g = applyTO ⟨pa, none⟩ g := fun g hg => by
        have : l.contains g.key = true := hl _ rfl g (List.mem_append_right _ (List.mem_map_of_mem hg))
        exact if_pos this
      simp only [Option.map_some, List.map_congr_left hg]

/-- the same for a list that holds every key; no finite list does, the usable form is `foldl_extractStep_of_listed` -/
theorem foldl_extractStep_all_listed (P : PP α) (pa : Bool) (l : List (String × Int × String)) (hall : ∀ k, l.contains k = true) :
    ∀ (L : List Nat) (acc : Option (St α × List (PGroup α))),
      L.foldl (extractStep P ⟨pa, some l⟩) acc = L.foldl (extractStep P ⟨pa, none⟩) acc :=
  fun L acc => foldl_extractStep_of_listed P pa l L acc fun _ _ g _ => hall g.key
end

section
variable {α : Type} [Add α] [Sub α] [Mul α] [OfNat α 0] [LT α] [DecidableLT α] [Max α] [Bonds.CellIdx α]

/-- **C11 on the set-up pipeline, any scalar**: if the offset list covers half of the neighbour cells, the criterion is symmetric
    and bonded atoms lie in equal or adjacent cells, then after the bonding phase `j` is in the bond list of `i` exactly when the
    criterion accepts the pair - wherever the atoms lie relative to the cells, in whatever order they come. -/
theorem pipeline_bonds_pairwise (P : PP α) (s0 : St α) (hH : Bonds.HalfComplete P.offsets) (h0 : (0, 0, 0) ∉ P.offsets)
    (hempty : ∀ i, adj s0 i = [])
    (hsym : ∀ a b, Bonds.crit P.bond (batom s0 a) (batom s0 b) = Bonds.crit P.bond (batom s0 b) (batom s0 a))
    (hnear : ∀ a b, Bonds.crit P.bond (batom s0 a) (batom s0 b) = true →
      Bonds.nearC (Bonds.cellOf P.bond (batom s0 a)) (Bonds.cellOf P.bond (batom s0 b)))
    (i j : Nat) (hi : i < s0.size) (hj : j < s0.size) (hne : i ≠ j) :
    j ∈ adj (bondAll P s0) i ↔ Bonds.crit P.bond (batom s0 i) (batom s0 j) = true := by
  rw [bondAll_refines P s0 h0 hempty i, Bonds.mem_adjOf]
  exact Bonds.boxes_eq_pairwise P.offsets hH _ _ s0.size hsym hnear i j hi hj hne

/-- the bond lists after the bonding phase are symmetric -/
theorem pipeline_bonds_symm (P : PP α) (s0 : St α) (h0 : (0, 0, 0) ∉ P.offsets) (hempty : ∀ i, adj s0 i = []) (i j : Nat) :
    j ∈ adj (bondAll P s0) i ↔ i ∈ adj (bondAll P s0) j := by
  rw [bondAll_refines P s0 h0 hempty i, bondAll_refines P s0 h0 hempty j]
  exact Bonds.adjOf_symm _ i j
end

/-- **C11 on the set-up pipeline with the shipped distances and offsets, exact milli-Angstrom arithmetic**: for every table of atoms
    (any coordinates, negative or not, any elements, any density, any order), after the bonding phase `j` is bonded to `i` exactly
    when the element-dependent distance criterion accepts the pair. -/
theorem pipeline_bonds_pairwise_shipped (P : PP Int) (hb : P.bond = Bonds.Pm) (ho : P.offsets = Bonds.H) (s0 : St Int)
    (hempty : ∀ i, adj s0 i = []) (i j : Nat) (hi : i < s0.size) (hj : j < s0.size) (hne : i ≠ j) :
    j ∈ adj (bondAll P s0) i ↔ Bonds.crit Bonds.Pm (batom s0 i) (batom s0 j) = true := by
  rw [← hb]
  exact pipeline_bonds_pairwise P s0 (ho ▸ Bonds.inst_half_complete) (ho ▸ Bonds.inst_no_zero_offset) hempty
    (fun _ _ => hb ▸ Bonds.crit_symm Bonds.Pm Bonds.inst_table_symm _ _)
    (fun _ _ => hb ▸ Bonds.crit_near Bonds.Pm Bonds.inst_maxSq_lt_box _ _) i j hi hj hne

/-! ### non-vacuity: four atoms across a cell boundary at negative coordinates (milli-Angstrom) -/
def demoPP : PP Int :=
  { bond := Bonds.Pm, offsets := Bonds.H, valence := fun _ => none, bondLen := fun _ => none, stdCharge := fun _ => none,
    sybCharge := fun _ => none, piSide := fun _ => none, piConjSide := fun _ => none, piBB := fun _ => none, piConjBB := fun _ => none,
    piLig := fun _ => none, piConjLig := fun _ => none, rnd := id, deg120 := 0, deg1095 := 0, deg90 := 0, tripleSq := 0, doubleSq := 0,
    margin := 0, T := ⟨[], [], [], [], [], [], []⟩, ligandTyping := "groups", maxCouplingBonds := 3, uniMul := 10000000, resMul := 1000,
    micro := id, ofInt := id }

def demoAtom (x y z : Int) (e : String) : PAtom Int := { (PAtom.dflt : PAtom Int) with pos := ⟨x, y, z⟩, elem := e, live := true }

def demoState : St Int := #[demoAtom (-10) 0 0 "C", demoAtom (-2520) 100 0 "N", demoAtom 1400 0 0 "H", demoAtom 1300 0 900 "O"]

example : (∀ i, adj demoState i = []) ∧ adj (bondAll demoPP demoState) 0 = [2, 3] ∧ adj (bondAll demoPP demoState) 1 = [] ∧
    Bonds.cellOf Bonds.Pm (batom demoState 0) ≠ Bonds.cellOf Bonds.Pm (batom demoState 2) := by
  refine ⟨fun i => ?_, ?_⟩
  · rcases i with _ | _ | _ | _ | _ <;> rfl
  · decide +kernel

end Propka.Pipe
