import Propka.Proofs.Profiles
import Propka.Gen.Consts
import Propka.Gen.Cfg
/-! # C10 — proton linkage; optimum and ranges; the requested grid -/
namespace Propka.Profiles

/-- **Proton linkage for one group** (formal charge ±1): `d(ΔG)/d(pH) = −s · (Q_folded − Q_unfolded)` with the same charge
    curves that are reported; `s = UNK_PKA_SCALING = −1.36`.  The reference-state term of `calculate_folding_energy` does not
    depend on pH. -/
theorem linkage_folding_energy (s : ℝ) (neutral : Bool) (g : TGroup ℝ) (ph : ℝ) (ht : g.titratable = true)
    (hq : g.charge = 1 ∨ g.charge = -1) :
    HasDerivAt (foldingEnergy s neutral g) (-s * (chargeAt g.charge g.pka ph - chargeAt g.charge g.modelPka ph)) ph := by
  have hf : foldingEnergy s neutral g = fun x =>
      (foldingEnergy s neutral g 0 - s * (qlog g.pka 0 - qlog g.modelPka 0)) + s * (qlog g.pka x - qlog g.modelPka x) := by
    funext x
    simp only [foldingEnergy, ht, Bool.not_true, Bool.false_eq_true, if_false]
    ring
  rw [hf]
  refine ((((qlog_deriv g.pka ph).sub (qlog_deriv g.modelPka ph)).const_mul s).const_add _).congr_deriv ?_
  rcases hq with e | e
  · rw [e, charge_pos_one, charge_pos_one]; ring
  · rw [e, charge_neg_one, charge_neg_one]; ring

theorem confFoldingEnergy_sum (s : ℝ) (neutral : Bool) (gs : List (TGroup ℝ)) (ph : ℝ) :
    confFoldingEnergy s neutral gs ph = (gs.map fun g => foldingEnergy s neutral g ph).sum := by
  simpa [confFoldingEnergy] using foldl_additive (f := fun acc g => acc + foldingEnergy s neutral g ph) id
    (fun g => foldingEnergy s neutral g ph) (fun _ _ => rfl) gs ((0 : ℕ) : ℝ)

/-- **Proton linkage for the protein**: if every titratable group has formal charge ±1 (an obligation
    on the shipped charge table, below), the derivative of the reported folding free energy with
    respect to pH is `−s` times the difference of the two reported total charges. -/
theorem linkage_protein (s : ℝ) (neutral : Bool) (gs : List (TGroup ℝ)) (ph : ℝ)
    (hq : ∀ g ∈ gs, g.titratable = true → (g.charge = 1 ∨ g.charge = -1)) :
    HasDerivAt (confFoldingEnergy s neutral gs) (-s * ((confCharge gs ph).2 - (confCharge gs ph).1)) ph := by
  rw [funext (confFoldingEnergy_sum s neutral gs), confCharge_eq]
  simp only [totalCharge]
  induction gs with
  | nil => simpa using hasDerivAt_const ph (0:ℝ)
  | cons g gs ih =>
    have ih' := ih (fun g' hg' => hq g' (List.mem_cons_of_mem _ hg'))
    by_cases ht : g.titratable = true
    · refine ((linkage_folding_energy s neutral g ph ht (hq g List.mem_cons_self ht)).add ih').congr_deriv ?_
      simp only [List.filter_cons, ht, if_true, List.map_cons, List.sum_cons]; ring
    · have hg : HasDerivAt (fun x => foldingEnergy s neutral g x) 0 ph := by
        rw [show (fun x => foldingEnergy s neutral g x) = fun _ => (0:ℝ) from funext fun x => by simp [foldingEnergy, ht]]
        exact hasDerivAt_const ph 0
      refine (hg.add ih').congr_deriv ?_
      simp only [List.filter_cons, ht, Bool.false_eq_true, if_false]; ring

/-- obligations on the generated constants: the scaling is −1.36 kcal/mol per pK unit, and every
    creatable kind of group that can titrate has formal charge ±1 -/
theorem inst_scaling : Propka.Gen.Consts.group_UNK_PKA_SCALING = -1360000 := by decide
theorem inst_unit_charges : ∀ kv ∈ Propka.Gen.Cfg.titratableKinds,
    ((Propka.Gen.Cfg.f_charge.find? (fun c => c.1 == kv.2)).map (·.2)) ∈ [some 1000000, some (-1000000)] := by decide +kernel

/-! ## optimum and ranges (any ordered field; stated over ℚ) -/

theorem opt_le (profile : List (ℚ × ℚ)) (init : Option ℚ × ℚ) :
    (∀ p ∈ profile, (profile.foldl optStep init).2 ≤ p.2) ∧ (profile.foldl optStep init).2 ≤ init.2 :=
  have h := foldl_min optStep Prod.snd Prod.snd (fun p => (some p.1, p.2)) (fun _ _ => rfl) (fun _ => rfl) profile init
  ⟨h.1, h.2.1⟩

theorem opt_mem (profile : List (ℚ × ℚ)) (init : Option ℚ × ℚ) :
    profile.foldl optStep init = init ∨ ∃ p ∈ profile, profile.foldl optStep init = (some p.1, p.2) :=
  (foldl_min optStep Prod.snd Prod.snd (fun p => (some p.1, p.2)) (fun _ _ => rfl) (fun _ => rfl) profile init).2.2

/-- **The reported optimum is the minimum of the computed profile**: no profile value is smaller, and
    unless every value is ≥ the sentinel 1e6 it is a point of the profile. -/
theorem optimum_is_min (big : ℚ) (profile : List (ℚ × ℚ)) :
    (∀ p ∈ profile, (optimum big profile).2 ≤ p.2) ∧
    ((∃ p ∈ profile, p.2 < big) → ∃ p ∈ profile, optimum big profile = (some p.1, p.2)) := by
  refine ⟨(opt_le profile (none, big)).1, ?_⟩
  rintro ⟨p, hp, hlt⟩
  rcases opt_mem profile (none, big) with h | h
  · -- the fold never left its start, so the sentinel is below every value
    have := (opt_le profile (none, big)).1 p hp
    rw [h] at this
    exact absurd hlt (not_lt.mpr this)
  · exact h

theorem minOf_le (vs : List ℚ) (m : ℚ) (h : minOf vs = some m) : (∀ v ∈ vs, m ≤ v) ∧ m ∈ vs := by
  cases vs with
  | nil => cases h
  | cons x xs =>
    obtain rfl : _ = m := Option.some.inj h
    obtain ⟨k1, k2, k3⟩ := foldl_min (fun m y => if y < m then y else m) id id id (fun _ _ => rfl) (fun _ => rfl) xs x
    refine ⟨List.forall_mem_cons.mpr ⟨k2, k1⟩, ?_⟩
    rcases k3 with h | ⟨y, hy, h⟩
    · rw [h]; exact List.mem_cons_self
    · rw [h]; exact List.mem_cons_of_mem _ hy

/-- **Ranges are consistent with the profile**: the lower end of a reported range is a grid pH whose
    value passes the filter, and no passing pH is smaller. -/
theorem range_lower_consistent (thr : ℚ) (profile : List (ℚ × ℚ)) (lo : ℚ)
    (h : (rangeBelow thr profile).1 = some lo) :
    (∃ p ∈ profile, p.1 = lo ∧ p.2 < thr) ∧ ∀ p ∈ profile, p.2 < thr → lo ≤ p.1 := by
  unfold rangeBelow at h
  obtain ⟨h1, h2⟩ := minOf_le _ lo h
  obtain ⟨p, hp, rfl⟩ := List.mem_map.mp h2
  have ⟨hp, hlt⟩ := List.mem_filter.mp hp
  exact ⟨⟨p, hp, rfl, of_decide_eq_true hlt⟩,
    fun q hq hlt => h1 q.1 (List.mem_map_of_mem (List.mem_filter.mpr ⟨hq, decide_eq_true hlt⟩))⟩

/-- `numSteps` is the integer part of `(max − min)/step + 1e-9`, as a pair of inequalities -/
theorem numSteps_spec (mn mx step : Int) (hs : 0 < step) :
    numSteps mn mx step * (step * 1000000000) ≤ (mx - mn) * 1000000000 + step ∧
    (mx - mn) * 1000000000 + step < (numSteps mn mx step + 1) * (step * 1000000000) := by
  have hpos : 0 < step * 1000000000 := by positivity
  unfold numSteps
  exact ⟨Int.ediv_mul_le _ (ne_of_gt hpos), Int.lt_ediv_add_one_mul_self _ hpos⟩

/-- **Both end points are grid points**: when `max − min` is a whole number `n` of steps, `numSteps` is `n`, so the grid
    (`gridPoints_ends`) is `min, min+step, …, min+n·step = max`. -/
theorem grid_includes_endpoints (mn step : Int) (n : Nat) (hs : 0 < step) :
    numSteps mn (mn + n * step) step = n := by
  unfold numSteps
  have e : (mn + ↑n * step - mn) * 1000000000 + step = step + n * (step * 1000000000) := by ring
  rw [e, Int.add_mul_ediv_right _ _ (by omega), Int.ediv_eq_zero_of_lt hs.le (by omega), zero_add]

theorem gridPoints_ends (mn step : ℚ) (n : Nat) :
    (gridPoints mn step n).head? = some mn ∧ (gridPoints mn step n).getLast? = some (mn + (n:ℚ) * step) ∧
    (gridPoints mn step n).length = n + 1 := by
  unfold gridPoints
  refine ⟨?_, ?_, by simp⟩
  · simp [List.range_succ_eq_map]
  · simp [List.range_succ]

/-- **Printed window rows**: a profile pH (in thousandths) is printed iff it lies in the window and on
    the lattice `window_min + k·delta`. -/
theorem window_rows (wmin wmax start delta ph : Int) (hd : 0 < delta) :
    windowRow wmin wmax start delta ph = true ↔ (wmin ≤ ph ∧ ph ≤ wmax ∧ ∃ k : Int, ph = start + k * delta) := by
  -- the lattice condition is divisibility of `ph - start` by `delta`
  have : (ph - start) % delta = 0 ↔ ∃ k : Int, ph = start + k * delta := by
    rw [← Int.dvd_iff_emod_eq_zero, dvd_iff_exists_eq_mul_left]
    exact exists_congr fun k => sub_eq_iff_eq_add'
  simp [windowRow, this, hd.ne', and_assoc]

/-- with `-w 0 14 2` the rows are the even pH values — in particular pH 1.0 … 1.9 are *not* printed -/
example : ((List.range 141).map (fun i => (i:Int) * 100)).filter (windowRow 0 14000 0 2000) = [0, 2000, 4000, 6000, 8000, 10000, 12000, 14000] := by
  decide +kernel

example : numSteps 0 300000 100000 = 3 ∧ numSteps 0 14000000 50000 = 280 ∧ numSteps 0 14000000 100000 = 140 := by decide

end Propka.Profiles
