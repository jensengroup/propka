import Propka.Props.C20
import Propka.Gen.Topology
import Propka.Gen.Protonate
import Propka.Proofs.Equivariance
import Propka.Proofs.Protonate
/-! # C17 — added hydrogens are chemically placed and complete

Geometry over `ℝ` on the generic constructions of `Propka.Prot` (the same text runs at `Float`);
completeness by `decide` over the generated electron-counting table of the standard residues. -/
namespace Propka.Prot
open Propka.Rot

theorem len_sq (v : V3 ℝ) : len v * len v = v.x*v.x + v.y*v.y + v.z*v.z :=
  Real.mul_self_sqrt (add_nonneg (add_nonneg (mul_self_nonneg _) (mul_self_nonneg _)) (mul_self_nonneg _))

theorem len_pos (v : V3 ℝ) (h : v.x ≠ 0 ∨ v.y ≠ 0 ∨ v.z ≠ 0) : 0 < len v := nrm_pos v h

theorem len_smul (v : V3 ℝ) (f : ℝ) (hf : 0 ≤ f) : len ⟨v.x * f, v.y * f, v.z * f⟩ = f * len v := by
  unfold len
  rw [show v.x * f * (v.x * f) + v.y * f * (v.y * f) + v.z * f * (v.z * f) = f * f * (v.x * v.x + v.y * v.y + v.z * v.z) by ring]
  exact (Real.sqrt_mul (mul_self_nonneg f) _).trans (congrArg (· * _) (Real.sqrt_mul_self hf))

/-- **Every constructed hydrogen lies at the tabulated X–H bond length from its parent** (before the
    coordinates are rounded to 0.001 Å): `set_bond_distance` rescales a non-zero direction to the
    bond length exactly. -/
theorem rescale_length (v : V3 ℝ) (l : ℝ) (hl : 0 ≤ l) (h : v.x ≠ 0 ∨ v.y ≠ 0 ∨ v.z ≠ 0) : len (rescale v l) = l := by
  have hp := len_pos v h
  rw [rescale, len_smul v _ (div_nonneg hl hp.le), div_mul_cancel₀ l hp.ne']

/-- the hydrogen position is parent + rescaled direction, so its distance to the parent is the bond length -/
theorem hydrogen_at_bond_length (atom v : V3 ℝ) (l : ℝ) (hl : 0 ≤ l) (h : v.x ≠ 0 ∨ v.y ≠ 0 ∨ v.z ≠ 0) :
    len (between atom (vadd atom (rescale v l))) = l := by
  have : between atom (vadd atom (rescale v l)) = rescale v l := by
    unfold between vadd; cases rescale v l; simp
  rw [this]; exact rescale_length v l hl h

/-- completing a trigonal centre: for unit bond directions `u₁, u₂` the new direction `−u₁−u₂` makes
    the same angle with both, and when `u₁·u₂ = −1/2` (120°) it is a unit vector at 120° to each -/
theorem trigonal_completion (u1 u2 : V3 ℝ) (h1 : dot u1 u1 = 1) (h2 : dot u2 u2 = 1) :
    let n := vsub (vneg u1) u2
    dot n u1 = -1 - dot u1 u2 ∧ dot n u2 = -1 - dot u1 u2 ∧ dot n n = 2 + 2 * dot u1 u2 := by
  simp only [dot, vsub, vneg] at *
  exact ⟨by linear_combination -h1, by linear_combination -h2, by linear_combination h1 + h2⟩

/-- two hydrogens at bond length `d` along unit directions 120° apart are `d·√3` apart — far more than 0.5 Å -/
theorem separation_trigonal (c u w : V3 ℝ) (d : ℝ) (hu : dot u u = 1) (hw : dot w w = 1) (huw : dot u w = -1/2) :
    let p := vadd c ⟨d * u.x, d * u.y, d * u.z⟩
    let q := vadd c ⟨d * w.x, d * w.y, d * w.z⟩
    dot (between p q) (between p q) = 3 * d * d := by
  simp only [dot, vadd, between] at *
  linear_combination (d * d) * hu + (d * d) * hw - (2 * d * d) * huw

/-- the first hydrogen of an –XH₂ / –XH group: turning the bond vector about any axis perpendicular to
    it by θ puts the new direction at angle θ to the bond (from the rotation theorem of C20) -/
theorem first_hydrogen_angle (θ : ℝ) (k v : V3 ℝ) (hk : k.x ≠ 0 ∨ k.y ≠ 0 ∨ k.z ≠ 0)
    (hperp : k.x * v.x + k.y * v.y + k.z * v.z = 0) :
    Rot.dot (rotateAround θ k v) v = Rot.dot v v * Real.cos θ := by
  rw [rotate_eq_rodrigues θ k v hk]
  simp only [Rot.dot, rodK, unit]
  -- `v cos θ + (u × v) sin θ + u (u·v)(1 − cos θ)` against `v`: the middle term is perpendicular to `v`, the last vanishes
  linear_combination ((k.x * v.x + k.y * v.y + k.z * v.z) / (nrm k * nrm k) * (1 - Real.cos θ)) * hperp

/-- both axes the code uses for that turn are perpendicular to the bond vector -/
theorem orthogonal_perp (v : V3 ℝ) : (orthogonal v).x * v.x + (orthogonal v).y * v.y + (orthogonal v).z * v.z = 0 := by
  unfold orthogonal; split <;> (simp only; ring)

theorem cross_perp (v w : V3 ℝ) : (cross v w).x * v.x + (cross v w).y * v.y + (cross v w).z * v.z = 0 := by
  unfold cross; simp only; ring

/-- bond lists after `add_proton(atom, position)`: the new hydrogen is bonded to the parent only, and
    the parent gains exactly that hydrogen -/
def addProton (adj : Nat → List Nat) (parent h : Nat) : Nat → List Nat :=
  fun k => if k = h then [parent] else if k = parent then adj parent ++ [h] else adj k

theorem one_parent (adj : Nat → List Nat) (parent h : Nat) (hne : parent ≠ h) :
    addProton adj parent h h = [parent] ∧ h ∈ addProton adj parent h parent ∧
    ∀ k, k ≠ h → k ≠ parent → addProton adj parent h k = adj k := by
  unfold addProton
  exact ⟨if_pos rfl, by simp [hne], fun _ h1 h2 => (if_neg h1).trans (if_neg h2)⟩

open Propka.Gen.Topology

/-- **Every nitrogen of a complete standard residue with peptide neighbours gets its full complement**:
    electron counting gives exactly the expected number of hydrogens (His 1+1, Arg 1+2+2, Asn/Gln 2,
    Trp 1, backbone amide 1, Pro 0), the steric number is 3 or 4, and the construction that handles
    that steric number has a branch for the atom's bond count. -/
theorem inst_complement : ∀ r ∈ rows,
    toAdd r.valence r.bonds r.pi r.charge = r.expectedH ∧
    (steric r.valence r.bonds r.pi r.conj r.charge = 3 ∨ steric r.valence r.bonds r.pi r.conj r.charge = 4) ∧
    (r.expectedH = 0 ∨ (1 ≤ r.bonds ∧ r.bonds + r.expectedH ≤ (steric r.valence r.bonds r.pi r.conj r.charge).toNat)) := by
  decide +kernel

/-- per group the hydrogens add up to what the group expects among its interaction atoms, so no
    'missing atoms or failed protonation' warning is issued -/
theorem inst_group_totals :
    ((rows.filter (fun r => r.res == "HIS" && r.group == "HIS")).map (·.expectedH)).sum = 2 ∧
    ((rows.filter (fun r => r.res == "ARG" && r.group == "ARG")).map (·.expectedH)).sum = 5 ∧
    (∀ r ∈ rows, r.group = "AMD" → r.expectedH = 2) ∧ (∀ r ∈ rows, r.group = "TRP" → r.expectedH = 1) ∧
    (∀ r ∈ rows, r.group = "BBN" → r.expectedH = (if r.res = "PRO" then 0 else 1)) ∧
    (∀ g ∈ ["HIS", "ARG", "AMD", "TRP", "BBN"], (expectedAcidH.find? (fun kv => kv.1 == g)).map (·.2) =
        some (if g = "HIS" then 2 else if g = "ARG" then 5 else if g = "AMD" then 2 else 1)) := by decide +kernel

/-- both expectation tables have the same keys, so the look-ups of the warning path cannot fail -/
theorem inst_expected_keys : expectedKeysAcid = expectedKeysBase := by decide +kernel

/-- the construction methods cover steric numbers 3 and 4, and every element met in proteins has a bond length -/
theorem inst_methods : Propka.Gen.Protonate.protonationMethods = [4, 3] ∧
    (∀ e ∈ ["C", "N", "O", "S"], (Propka.Gen.Protonate.bondLengthsMilli.find? (fun kv => kv.1 == e)).isSome) := by decide +kernel

/-! ### Non-vacuity -/
example : dot (⟨1, 0, 0⟩ : V3 ℝ) ⟨1, 0, 0⟩ = 1 ∧ dot (⟨1, 0, 0⟩ : V3 ℝ) ⟨-1/2, Real.sqrt 3 / 2, 0⟩ = -1/2 := by
  simp [dot]

end Propka.Prot

/-! ## the same hydrogens in every orientation

For the rigid motions of the property's family on the coordinate grid (one of the 24 axis-permuting rotations followed by a
translation), every construction that does not fall back on an arbitrary perpendicular direction (`Vector.orthogonal()`, used
only for an atom whose single neighbour defines no plane) builds, in the moved frame, the moved hydrogens - provided the
rounding commutes with the motion (`hr`: an assumption; the motion maps the 0.001 A grid onto itself, but a coordinate that lies
halfway between two grid values may round to the image of the other one, whatever the rounding rule). -/
namespace Propka.Equiv
open Propka.Geom (Mat rot24)
/-- **Completing a trigonal centre** (two neighbours present, one hydrogen to add: backbone amide N-H, His, Trp, Arg NE):
    the hydrogen built in the moved frame is the moved hydrogen. -/
theorem trigonal_completion_equivariant (m : Mat) (hm : m ∈ rot24) (t : V3 ℝ) (rnd rnd' : V3 ℝ → V3 ℝ)
    (hr : ∀ p, rnd' (move m t p) = move m t (rnd p)) (d120 : ℝ) (c : Prot.Call ℝ) (b1 b2 : V3 ℝ)
    (hb : c.bonded = [b1, b2]) (ht : c.toAdd = 1) :
    Prot.trigonal rnd' d120 (moveCall m t c) = (Prot.trigonal rnd d120 c).map (move m t) := by
  rw [Prot.trigonal_two hb ht, Prot.trigonal_two (c := moveCall m t c) (congrArg _ hb) ht]
  simp only [moveCall, List.map_cons, List.map_nil]
  rw [dir_move m hm, dir_move m hm, ← act_neg, ← act_sub, place_move m hm t rnd rnd' hr]

/-- **Completing a tetrahedral centre** (three neighbours present, one hydrogen to add: C-alpha, branched carbons) -/
theorem tetrahedral_completion_equivariant (m : Mat) (hm : m ∈ rot24) (t : V3 ℝ) (rnd rnd' : V3 ℝ → V3 ℝ)
    (hr : ∀ p, rnd' (move m t p) = move m t (rnd p)) (d1095 d90 : ℝ) (c : Prot.Call ℝ) (b1 b2 b3 : V3 ℝ)
    (hb : c.bonded = [b1, b2, b3]) (ht : c.toAdd = 1) :
    Prot.tetrahedral rnd' d1095 d90 (moveCall m t c) = (Prot.tetrahedral rnd d1095 d90 c).map (move m t) := by
  rw [Prot.tetrahedral_three hb ht, Prot.tetrahedral_three (c := moveCall m t c) (congrArg _ hb) ht]
  simp only [moveCall, List.map_cons, List.map_nil]
  rw [dir_move m hm, dir_move m hm, dir_move m hm, ← act_neg, ← act_sub, ← act_sub, place_move m hm t rnd rnd' hr]

/-- **A methylene group** (two neighbours present, two hydrogens to add): the first hydrogen is the reversed first bond turned by
    90 degrees about the bisector, the second completes the tetrahedron of the two neighbours and the (rounded) first hydrogen.
    Needs the bisector to be non-zero (the two neighbours not exactly opposite). -/
theorem methylene_equivariant (m : Mat) (hm : m ∈ rot24) (t : V3 ℝ) (rnd rnd' : V3 ℝ → V3 ℝ)
    (hr : ∀ p, rnd' (move m t p) = move m t (rnd p)) (d1095 d90 : ℝ) (c : Prot.Call ℝ) (b1 b2 : V3 ℝ)
    (hb : c.bonded = [b1, b2]) (ht : c.toAdd = 2)
    (hax : let ax := Prot.vadd (Prot.rescale (Prot.between c.atom b1) 1) (Prot.rescale (Prot.between c.atom b2) 1)
           ax.x ≠ 0 ∨ ax.y ≠ 0 ∨ ax.z ≠ 0) :
    Prot.tetrahedral rnd' d1095 d90 (moveCall m t c) = (Prot.tetrahedral rnd d1095 d90 c).map (move m t) := by
  rw [Prot.tetrahedral_two hb ht, Prot.tetrahedral_two (c := moveCall m t c) (congrArg _ hb) ht]
  simp only [List.map_cons, List.cons.injEq]
  -- the second hydrogen is built on the (rounded) first
  refine (fun h1 => ⟨h1, ?_⟩) ?_
  · simp only [moveCall]
    rw [dir_move m hm, dir_move m hm, ← act_neg, ← act_add, rotateAround_equivariant m hm _ _ _ hax, place_move m hm t rnd rnd' hr]
  · rw [h1]
    exact tetrahedral_completion_equivariant m hm t rnd rnd' hr d1095 d90 { c with bonded := [b1, b2, _], toAdd := 1 } b1 b2 _ rfl rfl

/-- **An amide / guanidinium NH2** (one neighbour, which is planar and has two further neighbours; two hydrogens to add: Asn ND2,
    Gln NE2, Arg NH1/NH2): the first hydrogen is the bond turned by 120 degrees about the normal of the neighbour's plane, the
    second completes the trigonal centre.  Needs that normal to be non-zero. -/
theorem amide_nh2_equivariant (m : Mat) (hm : m ∈ rot24) (t : V3 ℝ) (rnd rnd' : V3 ℝ → V3 ℝ)
    (hr : ∀ p, rnd' (move m t p) = move m t (rnd p)) (d120 : ℝ) (c : Prot.Call ℝ) (b0 o1 o2 : V3 ℝ)
    (hb : c.bonded = [b0]) (ho : c.nbOthers = [o1, o2]) (hs : c.nbSteric = 3) (ht : c.toAdd = 2)
    (hax : (planarAxis c.atom b0 o1 o2).x ≠ 0 ∨ (planarAxis c.atom b0 o1 o2).y ≠ 0 ∨ (planarAxis c.atom b0 o1 o2).z ≠ 0) :
    Prot.trigonal rnd' d120 (moveCall m t c) = (Prot.trigonal rnd d120 c).map (move m t) := by
  have hp := planarAxis_move m hm t c.atom b0 o1 o2
  unfold planarAxis at hp hax
  rw [Prot.trigonal_one hb ho hs ht, Prot.trigonal_one (c := moveCall m t c) (congrArg _ hb) (congrArg _ ho) hs ht]
  simp only [List.map_cons, List.cons.injEq] at hp hax ⊢
  refine (fun h1 => ⟨h1, ?_⟩) ?_
  · dsimp +instances only [moveCall]
    rw [hp, between_move, rotateAround_equivariant m hm _ _ _ hax, place_move m hm t rnd rnd' hr]
  · rw [h1]
    exact trigonal_completion_equivariant m hm t rnd rnd' hr d120 { c with bonded := [b0, _], toAdd := 1 } b0 _ rfl rfl
end Propka.Equiv
