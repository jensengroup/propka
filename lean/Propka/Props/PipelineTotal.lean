import Propka.Model.Program
import Propka.Props.C12
import Propka.Props.C01Coupling
/-! C12 on the set-up pipeline: the only Python exception the set-up model can raise is `set_center([])` (ValueError), and it
    never does: whatever atoms, bonds, SYBYL types and options, `prepare` returns a prepared conformation - provided every
    residue-to-group mapping of the parameter file names a group class the set-up knows (decided for the shipped file).
    Outside the model, where the code can raise all the same: divisions by the length of a zero vector (collinear or coincident
    atoms), which the model carries out in its scalar, and `list.remove` in `CtermGroup.setup_atoms` for a terminal oxygen that is
    not among the oxygens bonded to the carbon, which the model treats as a no-op. -/
namespace Propka.Pipe

/-- the classes the protein / ion classifier can name, for a mapping table, are known to the set-up and are not OCO -/
def MappingKnown (T : Groups.Tables) : Prop :=
  ∀ kv ∈ T.mapping, ∃ sh, Setup.clsOf (kv.2 ++ "Group") = some sh ∧ sh ≠ .oco

theorem lookup_mem {β : Type} (d : List (String × β)) (k : String) (v : β) (h : Groups.lookup d k = some v) : ∃ kv ∈ d, kv.2 = v :=
  have ⟨kv, hf, e⟩ := Option.map_eq_some_iff.mp h
  ⟨kv, List.mem_of_find?_eq_some hf, e⟩

theorem classOf_known (T : Groups.Tables) (hT : MappingKnown T) (a : Groups.AtomInfo) (c : String) (h : Groups.classOf T a = some c) :
    ∃ sh, Setup.clsOf c = some sh ∧ sh ≠ .oco := by
  -- what holds of every answer the classifier can give holds of `c`: no condition of the if-chain is looked at
  let Q : Option String → Prop := fun o => ∀ c, o = some c → ∃ sh, Setup.clsOf c = some sh ∧ sh ≠ .oco
  have orElse : ∀ o d : Option String, Q o → Q d → Q (match o with | some c => some c | none => d) := by
    intro o d ho hd; cases o <;> assumption
  have fixed : ∀ n ∈ ["NtermGroup", "CtermGroup", "BBNGroup", "BBCGroup", "IonGroup"], Q (some n) := by
    intro n hn c hc
    cases hc
    revert n
    decide +kernel
  simp only [List.forall_mem_cons] at fixed
  obtain ⟨nterm, cterm, bbn, bbc, ion, -⟩ := fixed
  have none : Q none := nofun
  have mapped : Q ((Groups.lookup T.mapping (a.resName ++ "-" ++ a.name)).map (· ++ "Group")) := by
    intro c hc
    obtain ⟨v, hv, rfl⟩ := Option.map_eq_some_iff.mp hc
    obtain ⟨kv, hkv, rfl⟩ := lookup_mem _ _ _ hv
    exact hT kv hkv
  exact orElse _ _
    (iteInduction (fun _ => none) fun _ => iteInduction (fun _ => nterm) fun _ => iteInduction (fun _ => cterm) fun _ =>
      iteInduction (fun _ => bbn) fun _ => iteInduction (fun _ => bbc) fun _ => mapped)
    (iteInduction (fun _ => ion) fun _ => none) c h

/-- the ligand classifier names OCO only for an atom with bonded oxygens -/
theorem ligandClass_oco (atoms : Scoring.Tab Scoring.AtomT) (sy : Nat → String) (a : Nat)
    (h : Setup.ligandClass atoms sy a = some "OCOGroup") : Setup.bondedEl atoms a "O" ≠ [] :=
  Setup.ligandClass_cases atoms sy a (P := fun c => c = "OCOGroup" → Setup.bondedEl atoms a "O" ≠ [])
    (fun _ _ hx e he => by have hlen := hx e; rw [he] at hlen; cases hlen) _ h rfl

section
variable {α : Type} [Add α] [Sub α] [Mul α] [Div α] [Neg α] [OfNat α 0] [OfNat α 1] [OfNat α 2]
  [DecidableEq α] [LT α] [DecidableLT α] [Max α] [NatCast α] [Trig α] [Bonds.CellIdx α]

theorem mkGroupCore_isSome (P : PP α) (s : St α) (cls : String) (i : Nat) (sh : Setup.Cls) (hc : Setup.clsOf cls = some sh)
    (hoco : sh = .oco → Setup.bondedEl (view (setupState P s cls i)) i "O" ≠ []) : (mkGroupCore P s cls i).isSome = true := by
  have hne : (Setup.setupAtoms (view (setupState P s cls i)) sh i).centre ≠ [] := by
    by_cases ho : sh = .oco
    · subst ho; rw [Setup.setup_oco]; exact hoco rfl
    · exact Setup.setup_total _ _ _ ho
  unfold mkGroupCore
  rw [hc]
  exact iteInduction (motive := fun (o : Option _) => o.isSome = true) (fun h => absurd (List.isEmpty_iff.mp h) hne) fun _ => rfl

/-- a class that `is_group` names is known to the set-up, and if its centre is the bonded oxygens there is one -/
theorem classOfAtom_known (P : PP α) (hT : MappingKnown P.T) (s s0 : St α) (i : Nat) (cls : String)
    (h : classOfAtom P s i = (s0, some cls)) :
    ∃ sh, Setup.clsOf cls = some sh ∧ (sh = .oco → Setup.bondedEl (view (setupState P s0 cls i)) i "O" ≠ []) := by
  unfold classOfAtom at h
  split at h
  · cases h
    obtain ⟨sh, h1, h2⟩ := classOf_known P.T hT _ _ ‹_›
    exact ⟨sh, h1, fun e => absurd e h2⟩
  · split at h
    · obtain ⟨rfl, e⟩ := Prod.mk.inj h
      obtain ⟨sh, hsh⟩ := Option.isSome_iff_exists.mp (Setup.ligand_classes_known cls (Setup.ligandClass_mem _ _ _ _ e)).1
      refine ⟨sh, hsh, ?_⟩
      rintro rfl
      obtain rfl := Setup.clsOf_oco cls hsh
      have : setupState P (protonateAtom P s i) "OCOGroup" i = protonateAtom P s i := by simp [setupState, protTargets]
      rw [this]
      exact ligandClass_oco _ _ _ e
    · cases h

/-- one atom of the loop never raises -/
theorem extractStep_isSome (P : PP α) (hT : MappingKnown P.T) (o : Opts) (s : St α) (gs : List (PGroup α)) (i : Nat) :
    (extractStep P o (some (s, gs)) i).isSome = true := by
  unfold extractStep
  simp only
  cases hcl : classOfAtom P s i with
  | mk s0 c =>
    cases c with
    | none => rfl
    | some cls =>
      obtain ⟨sh, h1, h2⟩ := classOfAtom_known P hT s s0 i cls hcl
      obtain ⟨r, hr⟩ := Option.isSome_iff_exists.mp (mkGroupCore_isSome P s0 cls i sh h1 h2)
      simp only [hr]
      rfl

/-- **C12 on the set-up pipeline**: the loop of `extract_groups` - with the protonation it triggers and the set-up of every group
    class - never raises, whatever atoms are present or missing. -/
theorem extractGroups_isSome (P : PP α) (hT : MappingKnown P.T) (o : Opts) (s : St α) : (extractGroups P o s).isSome = true :=
  List.foldlRecOn (motive := fun (r : Option (St α × List (PGroup α))) => r.isSome = true) _ _ rfl fun r hr i _ => by
    obtain ⟨r, rfl⟩ := Option.isSome_iff_exists.mp hr
    exact extractStep_isSome P hT o r.1 r.2 i

/-- **C12, the whole set-up of a conformation**: bonding, typing, protonation, group extraction and set-up, sorting and coupling
    return a prepared conformation for every table of atoms - complete or not. -/
theorem prepare_isSome (P : PP α) (hT : MappingKnown P.T) (o : Opts) (s0 : St α) : (prepare P o s0).isSome = true := by
  unfold prepare
  dsimp only
  split
  · next h => exact absurd (h ▸ extractGroups_isSome P hT o _) nofun
  · rfl
end

/-- the shipped residue-to-group mapping names only classes the set-up knows (regenerated from /repo on every run) -/
theorem inst_mapping_known : ∀ kv ∈ Gen.Cfg.f_protein_group_mapping, ∃ sh, Setup.clsOf (kv.2 ++ "Group") = some sh ∧ sh ≠ .oco := by
  decide +kernel

end Propka.Pipe

namespace Propka.Program
variable {α : Type} [Add α] [Sub α] [Mul α] [Div α] [Neg α] [OfNat α 0] [OfNat α 1] [OfNat α 2]
  [DecidableEq α] [LT α] [LE α] [DecidableLT α] [DecidableLE α] [Max α] [Min α] [NatCast α] [BEq α] [Inhabited α]
  [Trig α] [Bonds.CellIdx α] [Profiles.PowLog α]

/-- **C12 on the program model**: once the parser has accepted the text, every conformation gets its results - no conformation's
    set-up raises, whichever atoms or residues the text lacks. -/
theorem program_setup_never_raises (P : Pipe.PP α) (hT : Pipe.MappingKnown P.T) (sp : Scoring.SP α) (dec : Int → Nat → α) (o : Pipe.Opts)
    (recs : List Pdb.AtomRec) (c : ConfOut α) (hc : c ∈ afterParse P sp dec o recs) : c.2.isSome = true := by
  obtain ⟨c0, _, rfl⟩ := List.mem_map.mp hc
  simp only [Option.isSome_map]
  exact Pipe.prepare_isSome P hT o _
end Propka.Program
