import Propka.Model.Hidden
/-! # C03 — results are a pure function of input content and options

The Lean model of a run is a pure function, so determinism *of the model* would be vacuous.  What
is proved here is that the hidden, process-level state the real code carries between runs cannot
reach the results: every value a run reads from `PROTONATOR.valence_electrons` is the value it
would read in a fresh process, whatever was computed before.  Set-iteration order (object
addresses) is removed from the code itself (ordered traversal of coupled systems) and is checked
by running the real code under different hash seeds and allocation patterns. -/
namespace Propka.Hidden

/-- what a look-up of `k` returns in state `t`.  A look-up may grow the table, and never changes this function:
    that is the invariant. -/
def read (t : Table) (k : String) : Nat := (get t k).getD 4

theorem lookupInsert_snd (t : Table) (e : String) : (lookupInsert t e).2 = read t e := by
  unfold lookupInsert read
  cases get t e <;> rfl

theorem get_cons (t : Table) (e k : String) (v : Nat) :
    get ((e, v) :: t) k = if e = k then some v else get t k := by
  unfold get
  by_cases h : e = k
  · subst h; simp
  · simp [h]

theorem read_lookupInsert (t : Table) (e : String) : read (lookupInsert t e).1 = read t := by
  unfold lookupInsert
  cases ht : get t e with
  | some v => rfl
  | none =>
    funext k
    unfold read
    rw [get_cons]
    by_cases he : e = k
    · subst he; rw [if_pos rfl, ht]; rfl
    · rw [if_neg he]

theorem runLookups_read (t : Table) (prog : List String) :
    (runLookups t prog).2 = prog.map (read t) ∧ read (runLookups t prog).1 = read t := by
  induction prog generalizing t with
  | nil => exact ⟨rfl, rfl⟩
  | cons e es ih =>
    obtain ⟨i1, i2⟩ := ih (lookupInsert t e).1
    rw [read_lookupInsert] at i1 i2
    exact ⟨by simp only [runLookups, List.map_cons, lookupInsert_snd, i1], i2⟩

theorem history_read (t : Table) (progs : List (List String)) : history t progs = progs.map (List.map (read t)) := by
  induction progs generalizing t with
  | nil => rfl
  | cons p ps ih => rw [history, ih, (runLookups_read t p).1, (runLookups_read t p).2, List.map_cons]

/-- **Every run of a history reads what it would read alone in a fresh process.** -/
theorem history_indep (base : Table) (progs : List (List String)) :
    history base progs = progs.map (fun p => (runLookups base p).2) := by
  simp only [history_read, (runLookups_read base _).1]

/-- the `NCCG` singleton: what a call uses is what it was given, whatever the previous state -/
theorem nccg_params_overwritten {P : Type} (s1 s2 : Nccg P) (p : P) :
    (s1.identify p).2 = (s2.identify p).2 ∧ (s1.identify p).1 = (s2.identify p).1 := ⟨rfl, rfl⟩

/-! ### Non-vacuity: an unknown element met in an earlier run -/
example : history [("C", 4), ("N", 5)] [["C", "Xx", "N"], ["Xx", "N", "Yy"]] = [[4, 4, 5], [4, 5, 4]] := by decide

end Propka.Hidden
