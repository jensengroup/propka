import Propka.Props.Pipeline
import Propka.Props.C04
/-! C04 on the bonding phase of the set-up pipeline (`Pipe.bondAll`, the one `Program.run` executes): through the refinement
    `bondAll_refines` and C11's pairwise theorem, the perceived bonds are invariant under the rigid motions of the property. -/
namespace Propka.Pipe

/-- **C04 on the set-up pipeline (perceived bonds do not depend on where the structure sits)**: two tables of atoms without bonds,
    of equal size, whose atoms correspond under one of the rigid motions of the property (a rotation of the 24 that map the 0.001 A
    grid onto itself and any translation on the grid), get the same bonds from the pipeline's bonding phase - although the cells,
    the visit order and the order inside the bond lists change.  Exact milli-Angstrom arithmetic, shipped distances and offsets. -/
theorem pipeline_bonds_motion_invariant (P : PP Int) (hb : P.bond = Bonds.Pm) (ho : P.offsets = Bonds.H) (s0 s1 : St Int)
    (m : Geom.Mat) (hm : m ∈ Geom.rot24) (t : Geom.P3) (hsz : s1.size = s0.size)
    (hmove : ∀ i, i < s0.size → batom s1 i = Bonds.moved m t (batom s0 i))
    (he0 : ∀ i, adj s0 i = []) (he1 : ∀ i, adj s1 i = []) (i j : Nat) (hi : i < s0.size) (hj : j < s0.size) (hne : i ≠ j) :
    j ∈ adj (bondAll P s1) i ↔ j ∈ adj (bondAll P s0) i := by
  rw [pipeline_bonds_pairwise_shipped P hb ho s1 he1 i j (hsz ▸ hi) (hsz ▸ hj) hne,
      pipeline_bonds_pairwise_shipped P hb ho s0 he0 i j hi hj hne, hmove i hi, hmove j hj, Bonds.crit_invariant Bonds.Pm m (Geom.rot24_orthogonal m hm).1 t]

end Propka.Pipe
