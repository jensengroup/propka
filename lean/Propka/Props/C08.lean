import Propka.Proofs.Dets
import Propka.Model.TopUp
/-! # C08 — the conformation average is the mean over the conformations that contain a group; conformations are
    completed without merging residue types (`Propka.TopUp`, second half) -/
namespace Propka.Dets

/-- total value directed at partner `p` in a determinant list -/
def psum (p : String) (ds : List (Det ℚ)) : ℚ := ((ds.filter (fun d => d.grp = p)).map (·.value)).sum

theorem psum_eq_wsum (p : String) (ds : List (Det ℚ)) : psum p ds = wsum (fun g => if g = p then 1 else 0) ds := by
  simp [psum, wsum, ite_mul, List.sum_map_ite]

theorem average_wsum (w : String → ℚ) (fA : Acc ℚ → List (Det ℚ)) (fG : GRec ℚ → List (Det ℚ)) (h0 : fA ⟨0, 0, 0, [], [], []⟩ = [])
    (hadd : ∀ a g, fA (iadd a g) = (fG g).foldl addDet (fA a)) (hdiv : ∀ a n, fA (divAcc a n) = scaleDets (fA a) n)
    (found : List (GRec ℚ)) : wsum w (fA (average 0 found)) = (found.map fun g => wsum w (fG g)).sum / found.length :=
  average_reading (fun a => wsum w (fA a)) _ (by rw [h0]; rfl) (fun a g => by rw [hadd, wsum_foldl_addDet])
    (fun a n => by rw [hdiv, wsum_scale]) found

/-- **The average is the arithmetic mean over the conformations in which the group exists**: for the
    `k ≥ 1` records found, the averaged pKa and both desolvation terms are `(Σ over found)/k`, and for
    every partner the averaged determinant value is the mean of the values directed at that partner. -/
theorem average_is_mean (found : List (GRec ℚ)) (p : String) :
    let k : ℚ := found.length
    (average 0 found).pka = (found.map (·.pka)).sum / k ∧
    (average 0 found).evol = (found.map (·.evol)).sum / k ∧
    (average 0 found).eloc = (found.map (·.eloc)).sum / k ∧
    psum p (average 0 found).sc = (found.map (fun g => psum p g.sc)).sum / k ∧
    psum p (average 0 found).bb = (found.map (fun g => psum p g.bb)).sum / k ∧
    psum p (average 0 found).cb = (found.map (fun g => psum p g.cb)).sum / k := by
  simp only [psum_eq_wsum]
  exact ⟨average_reading (·.pka) (·.pka) rfl (fun _ _ => rfl) (fun _ _ => rfl) found,
    average_reading (·.evol) (·.evol) rfl (fun _ _ => rfl) (fun _ _ => rfl) found,
    average_reading (·.eloc) (·.eloc) rfl (fun _ _ => rfl) (fun _ _ => rfl) found,
    average_wsum _ (·.sc) (·.sc) rfl (fun _ _ => rfl) (fun _ _ => rfl) found,
    average_wsum _ (·.bb) (·.bb) rfl (fun _ _ => rfl) (fun _ _ => rfl) found,
    average_wsum _ (·.cb) (·.cb) rfl (fun _ _ => rfl) (fun _ _ => rfl) found⟩

/-- `avgScalar` is the arithmetic mean of the list it is given: the averaged buried fraction, atom counts … of a group are
    means over the conformations that contain it -/
theorem scalar_average_is_mean (xs : List ℚ) : avgScalar 0 xs = xs.sum / xs.length := by
  rw [avgScalar, ← List.sum_eq_foldl]

/-- **Repeating a structure as `n` identical models changes nothing.** -/
theorem identical_models (g : GRec ℚ) (n : ℕ) (hn : 0 < n) (p : String) :
    (average 0 (List.replicate n g)).pka = g.pka ∧ (average 0 (List.replicate n g)).evol = g.evol ∧
    (average 0 (List.replicate n g)).eloc = g.eloc ∧ psum p (average 0 (List.replicate n g)).cb = psum p g.cb ∧
    psum p (average 0 (List.replicate n g)).sc = psum p g.sc ∧ psum p (average 0 (List.replicate n g)).bb = psum p g.bb := by
  obtain ⟨h1, h2, h3, h4, h5, h6⟩ := average_is_mean (List.replicate n g) p
  have hn' : (n : ℚ) ≠ 0 := Nat.cast_ne_zero.mpr hn.ne'
  simp only [List.length_replicate, List.map_replicate, List.sum_replicate, nsmul_eq_mul, mul_div_cancel_left₀ _ hn'] at h1 h2 h3 h4 h5 h6
  exact ⟨h1, h2, h3, h6, h4, h5⟩

/-- **A single conformation is reported as it is.** -/
theorem single_conformation_identity (g : GRec ℚ) (p : String) :
    (average 0 [g]).pka = g.pka ∧ (average 0 [g]).evol = g.evol ∧ (average 0 [g]).eloc = g.eloc ∧
    psum p (average 0 [g]).sc = psum p g.sc ∧ psum p (average 0 [g]).bb = psum p g.bb ∧ psum p (average 0 [g]).cb = psum p g.cb :=
  have ⟨h1, h2, h3, h4, h5, h6⟩ := identical_models g 1 Nat.one_pos p
  ⟨h1, h2, h3, h5, h6, h4⟩

end Propka.Dets

namespace Propka.TopUp

theorem lookupName_cons (k key : String × Int × String) (v : String) (rest : Names) :
    lookupName ((k, v) :: rest) key = if k = key then some v else lookupName rest key := rfl

/-- what keeps an atom from being copied: its position is bound to another residue name, by the conformation's own atoms or by an
    atom offered with it -/
def Blocked (names : Names) (others : List A) (a : A) : Prop :=
  ∃ n, n ≠ a.resName ∧ (lookupName names (a.chain, a.num, a.icode) = some n ∨
    ∃ b ∈ others, b.chain = a.chain ∧ b.num = a.num ∧ b.icode = a.icode ∧ b.resName = n)

theorem Blocked.cons {names : Names} {rest : List A} {a : A} (b : A) : Blocked names rest a → Blocked names (b :: rest) a
  | ⟨n, hn, h⟩ => ⟨n, hn, h.imp_right fun ⟨c, hc, h⟩ => ⟨c, List.mem_cons_of_mem _ hc, h⟩⟩

/-- a binding made for a copied atom `b` blocks as `b` itself does -/
theorem Blocked.of_bound {names : Names} {rest : List A} {a : A} (b : A) :
    Blocked (((b.chain, b.num, b.icode), b.resName) :: names) rest a → Blocked names (b :: rest) a := by
  rintro ⟨n, hn, h | h⟩
  · rw [lookupName_cons] at h
    split at h
    · next hk =>
      simp only [Prod.mk.injEq] at hk
      exact ⟨n, hn, Or.inr ⟨b, List.mem_cons_self, hk.1, hk.2.1, hk.2.2, Option.some.inj h⟩⟩
    · exact ⟨n, hn, Or.inl h⟩
  · exact Blocked.cons b ⟨n, hn, Or.inr h⟩

/-- **Completion**: every atom offered whose residue label the conformation lacks is copied, unless
    its position (chain, number, insertion code) is bound to a different residue name, by the
    conformation's own atoms or by another atom offered. -/
theorem copy_complete (labels : List String) (names : Names) (others : List A) (a : A) (ha : a ∈ others)
    (hl : labels.contains a.label = false) :
    a ∈ copyLoop labels names others ∨
    ∃ n, n ≠ a.resName ∧ (lookupName names (a.chain, a.num, a.icode) = some n ∨ ∃ b ∈ others, b.chain = a.chain ∧ b.num = a.num ∧ b.icode = a.icode ∧ b.resName = n) := by
  change _ ∨ Blocked names others a
  induction others generalizing names with
  | nil => simp at ha
  | cons b rest ih =>
    unfold copyLoop
    rcases List.mem_cons.mp ha with rfl | ha'
    · -- the atom's own turn: copied, or its position is bound to another name
      rw [hl, if_neg Bool.false_ne_true]
      split
      · next n hn =>
        split
        · next hne => exact Or.inr ⟨n, hne, Or.inl hn⟩
        · exact Or.inl List.mem_cons_self
      · exact Or.inl List.mem_cons_self
    · -- an earlier atom's turn: whatever it does, the verdict on `a` is passed on
      split
      · exact (ih names ha').imp_right (Blocked.cons b)
      · split
        · split
          · exact (ih names ha').imp_right (Blocked.cons b)
          · exact (ih names ha').imp (List.mem_cons_of_mem _) (Blocked.cons b)
        · exact (ih _ ha').imp (List.mem_cons_of_mem _) (Blocked.of_bound b)

/-- the atoms of `l` carry the residue names that `names` binds their positions to, and two of them at one position carry one name -/
def Agree (names : Names) (l : List A) : Prop :=
  (∀ b ∈ l, ∀ n, lookupName names (b.chain, b.num, b.icode) = some n → n = b.resName) ∧
  l.Pairwise fun b c => c.chain = b.chain → c.num = b.num → c.icode = b.icode → c.resName = b.resName

theorem Agree.cons {names names' : Names} {x : A} {l : List A} (h : Agree names' l)
    (hx : lookupName names' (x.chain, x.num, x.icode) = some x.resName)
    (hk : ∀ k n, lookupName names k = some n → lookupName names' k = some n) : Agree names (x :: l) :=
  ⟨List.forall_mem_cons.mpr ⟨fun n hn => Option.some.inj ((hk _ n hn).symm.trans hx), fun b hb n hn => h.1 b hb n (hk _ n hn)⟩,
    List.pairwise_cons.mpr ⟨fun c hc h1 h2 h3 => (h.1 c hc _ (by rw [h1, h2, h3, hx])).symm, h.2⟩⟩

/-- bindings are only added, for positions that had none: a copied atom goes in front of what the loop copies under bindings that
    keep the old ones and bind its position to its name -/
theorem copied_agree (labels : List String) (names : Names) (others : List A) : Agree names (copyLoop labels names others) := by
  induction others generalizing names with
  | nil => exact ⟨List.forall_mem_nil _, .nil⟩
  | cons x rest ih =>
    unfold copyLoop
    split
    · exact ih names
    · split
      · next n hn =>
        split
        · exact ih names
        · next hne => exact (ih names).cons (not_not.mp hne ▸ hn) fun _ _ h => h
      · next hn =>
        refine (ih _).cons (by rw [lookupName_cons, if_pos rfl]) fun k n h => ?_
        rw [lookupName_cons, if_neg, h]
        rintro rfl; exact nomatch hn.symm.trans h

/-- **Never merging residue types**: a copied atom's residue name is the one its `(chain, number, insertion code)`
    was bound to — by the conformation's own atoms, or by the first atom copied there. -/
theorem copy_no_merge (labels : List String) (names : Names) (others : List A) (a : A)
    (ha : a ∈ copyLoop labels names others) :
    (∀ n, lookupName names (a.chain, a.num, a.icode) = some n → n = a.resName) ∧
    (∀ b ∈ copyLoop labels names others, b.chain = a.chain → b.num = a.num → b.icode = a.icode → b.resName = a.resName) :=
  have ⟨h1, h2⟩ := copied_agree labels names others
  -- the pairwise relation is symmetric in its two atoms and holds of an atom with itself, so it holds of all ordered pairs
  ⟨h1 a ha, fun _ hb =>
    h2.forall_of_forall_of_flip (fun _ _ _ _ _ => rfl) (h2.imp fun h h1 h2 h3 => (h h1.symm h2.symm h3.symm).symm) ha hb⟩

/-- the conformation's own atoms are all kept, in order, in front of the copies -/
theorem own_atoms_kept (mine others : List A) : mine <+: topUpFrom mine others := by
  unfold topUpFrom; exact List.prefix_append _ _

/-! ### Non-vacuity: ASP in one conformation, VAL at the same position in the other -/
example :
    let asp : List A := [⟨"CG   50 A", "A", 50, " ", "ASP"⟩, ⟨"CA   50 A", "A", 50, " ", "ASP"⟩]
    let val : List A := [⟨"CG1  50 A", "A", 50, " ", "VAL"⟩, ⟨"CA   50 A", "A", 50, " ", "VAL"⟩, ⟨"N    51 A", "A", 51, " ", "GLY"⟩]
    topUpFrom asp (refAtoms [asp, val]) = asp ++ [⟨"N    51 A", "A", 51, " ", "GLY"⟩] := by decide

end Propka.TopUp
