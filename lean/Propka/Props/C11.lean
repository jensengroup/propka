import Propka.Proofs.Bonds
import Propka.Gen.Bonds
/-! # C11 — covalent bonds are exactly those the pairwise distance rule gives

The model (`Propka.Bonds`) is instantiated with exact milli-Ångström integer coordinates (PDB
coordinates are a 0.001 Å grid) and with the constants and the half-space offset list that the
translator extracted from `propka/bonds.py` (`Propka.Gen`).  `inst_*` lemmas are obligations on the
generated values and are re-checked whenever the source changes. -/
namespace Propka.Bonds
open Propka.Gen

/-- the parameters of the shipped `BondMaker`, in thousandths of an Ångström -/
def Pm : BondParams Int := ⟨bondDistsMilli, hDistMilli, defaultDistMilli, boxMilli⟩
def H : List Cell := bondOffsets
def dflt : BAtom Int := ⟨0, 0, 0, ""⟩

/-- of every non-zero neighbour direction, the direction or its opposite is in the offset list -/
theorem inst_half_complete : HalfComplete H := by unfold HalfComplete; decide +kernel
/-- the offset list does not pair a box with itself -/
theorem inst_no_zero_offset : (0, 0, 0) ∉ H := by decide
/-- the box is larger than the longest bond distance -/
theorem inst_maxSq_lt_box : maxSq Pm ≤ (boxMilli - 1) * (boxMilli - 1) ∧ 0 < boxMilli := by decide
/-- the pair-specific distance table is symmetric in the two elements -/
theorem inst_table_symm : ∀ kv ∈ Pm.dists, lookupDist Pm.dists (kv.1.2, kv.1.1) = lookupDist Pm.dists kv.1 := by decide

/-- `atom.bonded_atoms` of atom `i` after `find_bonds_for_atoms_using_boxes(atoms)` -/
def bondedAtoms (atoms : Array (BAtom Int)) (i : Nat) : List Nat := adjOf (findBondsAtoms H Pm dflt atoms) i

/-- **Main theorem.** For every atom array (any coordinates on the grid, negative or not, any
    elements, any density, any order) and every two distinct atoms: `j` is in `i`'s bond list after
    the cell-list search iff the pair criterion accepts `(i, j)`. -/
theorem bonds_eq_pairwise (atoms : Array (BAtom Int)) (i j : Nat) (hi : i < atoms.size) (hj : j < atoms.size)
    (hne : i ≠ j) :
    j ∈ bondedAtoms atoms i ↔ crit Pm (atoms.getD i dflt) (atoms.getD j dflt) = true := by
  unfold bondedAtoms
  rw [mem_adjOf]
  exact boxes_eq_pairwise H inst_half_complete (fun i => cellOf Pm (atoms.getD i dflt))
    (fun i j => crit Pm (atoms.getD i dflt) (atoms.getD j dflt)) atoms.size
    (fun _ _ => crit_symm Pm inst_table_symm _ _) (fun _ _ => crit_near Pm inst_maxSq_lt_box _ _) i j hi hj hne

/-- **Bonds are symmetric.** -/
theorem bonds_symm (atoms : Array (BAtom Int)) (i j : Nat) : j ∈ bondedAtoms atoms i ↔ i ∈ bondedAtoms atoms j :=
  adjOf_symm _ i j

/-- **No atom is bonded to itself.** -/
theorem bonds_irrefl (atoms : Array (BAtom Int)) (i : Nat) : i ∉ bondedAtoms atoms i := by
  unfold bondedAtoms; rw [mem_adjOf]
  rintro (h | h) <;> exact (findBonds_mem H inst_no_zero_offset _ _ _ _ _ h).2.2.1 rfl

/-- **Independence of everything else**: whether two atoms are bonded depends on those two atoms
    only — not on their position in the atom list, on the other atoms present, or on where they fall
    relative to the grid of boxes. -/
theorem bond_depends_on_pair_only (as bs : Array (BAtom Int)) (i j i' j' : Nat)
    (hi : i < as.size) (hj : j < as.size) (hne : i ≠ j) (hi' : i' < bs.size) (hj' : j' < bs.size) (hne' : i' ≠ j')
    (ei : as.getD i dflt = bs.getD i' dflt) (ej : as.getD j dflt = bs.getD j' dflt) :
    j ∈ bondedAtoms as i ↔ j' ∈ bondedAtoms bs i' := by
  rw [bonds_eq_pairwise as i j hi hj hne, bonds_eq_pairwise bs i' j' hi' hj' hne', ei, ej]

/-- disulfide flag: `atom.cysteine_bridge` is set for both atoms when a bond between two sulfurs is made -/
def bridged (atoms : Array (BAtom Int)) (i : Nat) : Prop :=
  ∃ p ∈ findBondsAtoms H Pm dflt atoms, (p.1 = i ∨ p.2 = i) ∧
    (atoms.getD p.1 dflt).elem = "S" ∧ (atoms.getD p.2 dflt).elem = "S"

/-- **Both sulfurs of every S–S pair within the criterion are marked as bridged**, and nothing else is. -/
theorem bridged_iff (atoms : Array (BAtom Int)) (i : Nat) (hi : i < atoms.size) :
    bridged atoms i ↔ ∃ j, j < atoms.size ∧ j ≠ i ∧ (atoms.getD i dflt).elem = "S" ∧ (atoms.getD j dflt).elem = "S" ∧
      crit Pm (atoms.getD i dflt) (atoms.getD j dflt) = true := by
  unfold bridged
  constructor
  · rintro ⟨⟨a, b⟩, hp, hor, hs1, hs2⟩
    obtain ⟨ha, hb, hab, hc⟩ := findBonds_mem H inst_no_zero_offset _ _ _ a b hp
    rcases hor with rfl | rfl
    · exact ⟨b, hb, hab.symm, hs1, hs2, hc⟩
    · exact ⟨a, ha, hab, hs2, hs1, (crit_symm Pm inst_table_symm _ _).trans hc⟩
  · rintro ⟨j, hj, hne, hs1, hs2, hc⟩
    have := (bonds_eq_pairwise atoms i j hi hj hne.symm).mpr hc
    unfold bondedAtoms at this
    rw [mem_adjOf] at this
    rcases this with h | h
    · exact ⟨(i, j), h, Or.inl rfl, hs1, hs2⟩
    · exact ⟨(j, i), h, Or.inr rfl, hs2, hs1⟩

/-- **`make_bond` over any call sequence** keeps all bond lists symmetric, irreflexive and duplicate-free. -/
theorem make_bond_invariant (ops : List (Nat × Nat)) :
    AdjInv (ops.foldl (fun s p => makeBond s p.1 p.2) (fun _ => [])) :=
  makeBond_seq_inv ops _ ⟨by simp, by simp, by simp⟩

/-! ### Non-vacuity: a concrete structure across a cell boundary at negative coordinates -/
example :
    let atoms : Array (BAtom Int) := #[⟨-10, 0, 0, "C"⟩, ⟨-2520, 100, 0, "N"⟩, ⟨1400, 0, 0, "H"⟩, ⟨5000, 5000, 5000, "S"⟩, ⟨5000, 5000, 7400, "S"⟩]
    findBondsAtoms H Pm dflt atoms = [(2, 0), (4, 3)] ∧ cellOf Pm (atoms.getD 0 dflt) ≠ cellOf Pm (atoms.getD 2 dflt)
      ∧ crit Pm (atoms.getD 0 dflt) (atoms.getD 1 dflt) = false := by decide +kernel

end Propka.Bonds
