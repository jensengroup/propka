import Propka.Model.CoupleSearch
import Propka.Props.C01Coupling
import Propka.Props.C15
/-! C15 on the model of the whole search for non-covalently coupled groups of a conformation (`Model/CoupleSearch.lean`, the one
    `Program.averageRun` executes on what `Program.run` returns, between scoring and averaging): whatever the records, parameters
    and scalar, the coupling lists it leaves are symmetric - if A is marked coupled to B then B is marked coupled to A -, and
    every record has the results it had before the search. -/
namespace Propka.CoupleSearch
open Propka.Dets

theorem mem_pairs_lt {α : Type} (st : Array (Static α)) (p : Nat × Nat) (h : p ∈ pairs st) : p.1 < st.size ∧ p.2 < st.size := by
  unfold pairs at h
  simp only [List.mem_flatMap, List.mem_map, List.mem_filter, List.mem_range] at h
  obtain ⟨i, ⟨hi, _⟩, j, hj, rfl⟩ := h
  have hj' := List.takeWhile_subset _ hj
  simp only [List.mem_filter, List.mem_range] at hj'
  exact ⟨hi, hj'.1⟩

section
variable {α : Type} [Add α] [Sub α] [Mul α] [Div α] [Neg α] [NatCast α] [LT α] [LE α] [DecidableLT α] [DecidableLE α]
  [Profiles.PowLog α]

/-- Every exit of the probe leaves the state as it was up to the memoised intrinsic pKa values (not both groups there, or one of
    the first two gates), or with the two records swapped twice (the other gates); whatever holds of these states, with any
    verdict, holds of the probe. -/
theorem probePair_cases (cp : CP α) (st : Array (Static α)) (s : St α) (i j : Nat) (P : St α × Option α → Prop)
    (h0 : ∀ intr, P ({ s with intr := intr }, none))
    (h1 : ∀ g1 g2 intr r, s.gs[i]? = some g1 → s.gs[j]? = some g2 →
      P ({ s with gs := (s.gs.setIfInBounds i (swap cp.fixed (swap cp.fixed g1 g2).1 (swap cp.fixed g1 g2).2).1).setIfInBounds j
                          (swap cp.fixed (swap cp.fixed g1 g2).1 (swap cp.fixed g1 g2).2).2, intr := intr }, r)) :
    P (probePair cp st s i j) := by
  unfold probePair
  split
  · next g1 g2 _ _ e1 e2 _ _ =>
    have h1 := fun intr r => h1 g1 g2 intr r e1 e2
    exact iteInduction (fun _ => h0 s.intr) fun _ => iteInduction (fun _ => h0 _) fun _ =>
      iteInduction (fun _ => h1 _ _) fun _ => iteInduction (fun _ => h1 _ _) fun _ => iteInduction (fun _ => h1 _ _) fun _ => h1 _ _
  · exact h0 s.intr

/-- what a probe of the pair `(i, j)` can make of the table `gs`: nothing, or the two records swapped twice (`Dets.probePair`,
    which is stated over ℚ only; `probePair` in this namespace is the program's probe) -/
def Probed (fixed : α) (gs : Array (GRec α)) (i j : Nat) (gs' : Array (GRec α)) : Prop :=
  gs' = gs ∨ ∃ g1 g2, gs[i]? = some g1 ∧ gs[j]? = some g2 ∧
    gs' = (gs.setIfInBounds i (swap fixed (swap fixed g1 g2).1 (swap fixed g1 g2).2).1).setIfInBounds j
            (swap fixed (swap fixed g1 g2).1 (swap fixed g1 g2).2).2

theorem searchStep_state (cp : CP α) (st : Array (Static α)) (s : St α) (ij : Nat × Nat) :
    Probed cp.fixed s.gs ij.1 ij.2 (searchStep cp st s ij).gs ∧
    ((searchStep cp st s ij).coupled = s.coupled ∨ (searchStep cp st s ij).coupled = Setup.couple s.coupled ij.1 ij.2) := by
  have hr : Probed cp.fixed s.gs ij.1 ij.2 (probePair cp st s ij.1 ij.2).1.gs ∧ (probePair cp st s ij.1 ij.2).1.coupled = s.coupled :=
    probePair_cases cp st s ij.1 ij.2 (fun r => Probed cp.fixed s.gs ij.1 ij.2 r.1.gs ∧ r.1.coupled = s.coupled)
      (fun _ => ⟨Or.inl rfl, rfl⟩) (fun g1 g2 _ _ e1 e2 => ⟨Or.inr ⟨g1, g2, e1, e2, rfl⟩, rfl⟩)
  unfold searchStep
  split
  · exact ⟨Or.inl rfl, Or.inl rfl⟩
  · split
    · split
      · exact ⟨hr.1, Or.inr (by simp only [couple, hr.2])⟩
      · exact ⟨hr.1, Or.inl hr.2⟩
    · exact ⟨hr.1, Or.inl hr.2⟩

/-- **Coupling is symmetric** on the search model: after `identify`, `j` is in the coupling list of `i` exactly when `i` is in the
    coupling list of `j` - for every table of records, every parameter set and every scalar. -/
theorem identify_coupling_symm (cp : CP α) (st : Array (Static α)) (gs : Array (GRec α)) (hsz : st.size = gs.size) :
    Setup.Sym (identify cp st gs).coupled := by
  unfold identify
  refine (List.foldlRecOn (motive := fun (s : St α) => Setup.SymN gs.size s.coupled) (pairs st) _ (.replicate _) ?_).2
  intro s hs p hp
  obtain ⟨l1, l2⟩ := mem_pairs_lt st p hp
  rcases (searchStep_state cp st s p).2 with h | h <;> rw [h]
  · exact hs
  · exact hs.couple (hsz ▸ l1) (hsz ▸ l2)
end

/-! ### the search observes without disturbing (exact arithmetic; any model of `10**x` and `log10`) -/
section
variable [Profiles.PowLog ℚ]

/-- The steps of the search over any list of pairs, from any state, keep the table: a record written back is a record of the
    table swapped twice. -/
theorem foldl_searchStep_keeps (cp : CP ℚ) (st : Array (Static ℚ)) (dflt : GRec ℚ) (ps : List (Nat × Nat)) (s0 : St ℚ) :
    Dets.Kept cp.fixed dflt s0.gs (ps.foldl (searchStep cp st) s0).gs := by
  refine List.foldlRecOn (motive := fun (s : St ℚ) => Dets.Kept cp.fixed dflt s0.gs s.gs) ps _ .refl fun s hs p _ => ?_
  rcases (searchStep_state cp st s p).1 with h | ⟨g1, g2, e1, e2, h⟩ <;> rw [h]
  · exact hs
  · obtain rfl : s.gs.getD p.1 dflt = g1 := by rw [Array.getD_eq_getD_getElem?, e1]; rfl
    obtain rfl : s.gs.getD p.2 dflt = g2 := by rw [Array.getD_eq_getD_getElem?, e2]; rfl
    exact hs.set₂ p.1 p.2 (Dets.swap_twice ..).1 (Dets.swap_twice ..).2

/-- **C15 on the program's search**: after `identify` (the probes of all pairs of titratable groups in turn, with every gate, the
    memoised intrinsic pKa values and the folding energy of the whole conformation) every group of the conformation has the results
    it had after scoring - pKa, both desolvation terms, every determinant with its partner and label, as multisets - and is up to
    date: every temporary swap is undone exactly.  For every table of records, every parameter set, exact arithmetic. -/
theorem identify_preserves_results (cp : CP ℚ) (st : Array (Static ℚ)) (gs : Array (GRec ℚ)) (dflt : GRec ℚ) (hsz : st.size = gs.size)
    (hu : ∀ i, i < gs.size → Dets.UpToDate cp.fixed (gs.getD i dflt)) :
    (identify cp st gs).gs.size = gs.size ∧
    ∀ i, i < gs.size → Dets.SameResults ((identify cp st gs).gs.getD i dflt) (gs.getD i dflt) ∧
      Dets.UpToDate cp.fixed ((identify cp st gs).gs.getD i dflt) :=
  have h := foldl_searchStep_keeps cp st dflt (pairs st) ⟨gs, _, _⟩
  ⟨h.1, fun i hi => h.2 i hi (hu i hi)⟩
end

end Propka.CoupleSearch
