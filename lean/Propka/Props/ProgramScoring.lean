import Propka.Model.Program
import Propka.Props.C02
import Propka.Props.C16
/-! The scoring theorems instantiated on the program model: `Program.scorePrepared` is `Scoring.score` applied to the tables
    and the environment the set-up pipeline produced, so every theorem about `score` - which quantify over *all* tables and
    environments - speaks about every number `Program.run` reports. -/
namespace Propka.Program
open Propka.Scoring

noncomputable instance : Bonds.CellIdx ℝ := ⟨fun x b => Int.floor (x / b)⟩
/-- the scoring phase never calls `10**x` or `log10` (they belong to the profiles): any model of them serves here.  A trap: this
    is a global instance beside the real one of `Proofs/Profiles`; a file that imports both and states something about `chargeAt`,
    `qlog` or `foldingEnergy` at `ℝ` gets the one declared last. -/
noncomputable instance : Profiles.PowLog ℝ := ⟨fun x => x, fun x => x⟩

section
variable {α : Type} [Add α] [Sub α] [Mul α] [Div α] [Neg α] [OfNat α 0] [OfNat α 1] [OfNat α 2]
  [DecidableEq α] [LT α] [LE α] [DecidableLT α] [DecidableLE α] [Max α] [Min α] [NatCast α] [BEq α] [Inhabited α]
  [Trig α] [Bonds.CellIdx α] [Profiles.PowLog α]

set_option linter.unusedSectionVars false in
/-- **C02 on the program model, any scalar (the `Float` instance is the one compared with the program bit for bit)**: the pKa
    reported for every group of a prepared conformation is `calculate_total_pka` of its own record - model pKa plus the two
    desolvation terms plus every listed determinant, or the fixed value for a bridged cysteine. -/
theorem program_pka_consistent (sp : SP α) (r : Pipe.Prepared α) (g : Nat) (gr : Pipe.PGroup α) (hgr : r.groups[g]? = some gr) :
    ∃ o, (scorePrepared sp r)[g]? = some o ∧ o.pka = totalPka sp (groupOf r gr) o.evol o.eloc o.sc o.bb o.cb := by
  have hg : g < r.groups.size := (Array.getElem?_eq_some_iff.mp hgr).1
  unfold scorePrepared
  obtain ⟨o, h1, h2⟩ := pipeline_consistent sp (envTab r) (atomTab r) (groupTab r) g hg
  refine ⟨o, h1, ?_⟩
  rw [h2]
  simp only [gget, groupTab, hgr]
end

/-- **C16 on the program model, over the reals**: for every prepared conformation - whatever the structure was - the buried fraction
    of every group lies in [0, 1], desolvation never lowers an acid's pKa nor raises a base's, and the local term is non-negative. -/
theorem program_desolvation_signs (sp : SP ℝ) (h : Energy.WellFormed sp.ep) (r : Pipe.Prepared ℝ) (g : Nat) (gr : Pipe.PGroup ℝ)
    (hgr : r.groups[g]? = some gr) :
    ∃ o, (scorePrepared sp r)[g]? = some o ∧ 0 ≤ o.buried ∧ o.buried ≤ 1 ∧ (gr.q < 0 → 0 ≤ o.evol) ∧ (0 < gr.q → o.evol ≤ 0) ∧ 0 ≤ o.eloc := by
  have hg : g < r.groups.size := (Array.getElem?_eq_some_iff.mp hgr).1
  unfold scorePrepared
  obtain ⟨o, h1, h2, h3, h4, h5, h6⟩ := score_desolvation_signs sp h (envTab r) (atomTab r) (groupTab r) g hg
  simp only [gget, groupTab, hgr, groupOf] at h4 h5
  exact ⟨o, h1, h2, h3, h4, h5, h6⟩

end Propka.Program
