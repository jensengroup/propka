import Propka.Proofs.Pdb
import Propka.Proofs.Groups
import Propka.Gen.Cfg
/-! # C01 — every ionizable group is predicted exactly once with the right model pKa

Three layers: (1) the terminus bookkeeping of the parser (which atoms become `N+` / `C-`);
(2) the per-atom classification and `Group.setup` with the shipped tables; (3) the summary rows. -/
namespace Propka.Pdb

/-- **Simulation.** Let the code compare the coarse key `f k` where the specification compares
    residue identity `k`.  If, along the run, `f` separates the residues the state currently
    remembers (the first residue of the segment; the residue carrying the terminal oxygen), then the
    code tags exactly the atoms the specification tags. -/
theorem tagging_correct {κ κ' : Type} [DecidableEq κ] [DecidableEq κ'] (f : κ → κ') (rs : List (Rec κ))
    (h : AgreeRun f St.init rs) :
    run St.init (rs.map (Rec.mapKey f)) = run St.init rs :=
  run_sim f St.init St.init rs ⟨iff_of_true rfl rfl, nofun, rfl⟩ h

/-- with the key the code uses (chain, number, insertion code) nothing has to be assumed when the
    specification's identity is that same triple -/
theorem tagging_exact (rs : List (Rec (List Char))) : run St.init (rs.map (Rec.mapKey id)) = run St.init rs := by
  rw [show (Rec.mapKey id : Rec (List Char) → _) = id from rfl, List.map_id]

/-- a key that drops the insertion code (the 4-character number field alone) is **not** enough:
    two residues `52` and `52A` — the first residue of a chain and its insertion-coded twin — both
    get an `N+` -/
theorem number_only_key_counterexample :
    let twin : List (Rec (Nat × Nat)) :=    -- key = (number, insertion code)
      [⟨.atom, true, false, (52, 0), false⟩, ⟨.atom, false, false, (52, 0), false⟩,
       ⟨.atom, true, false, (52, 1), false⟩, ⟨.atom, false, false, (52, 1), false⟩]
    run St.init (twin.map (Rec.mapKey Prod.fst)) = [true, false, true, false] ∧
    run St.init twin = [true, false, false, false] := by decide

/-- the first ATOM record after the start, a `MODEL` or a `TER` (no terminal oxygen seen since) opens a chain: its
    residue key is remembered and its `N` is tagged -/
theorem first_atom_opens_chain {κ : Type} [DecidableEq κ] (r : Rec κ) (hk : r.kind = .atom) (hs : r.skip = false)
    (ho : r.isOxt = false) :
    (step (⟨.next, none⟩ : St κ) r).1.nterm = .key r.key ∧ (step (⟨.next, none⟩ : St κ) r).2 = r.isN := by
  unfold step; simp [hk, hs, ho]

/-- `TER` and `MODEL` end the chain -/
theorem ter_resets {κ : Type} [DecidableEq κ] (s : St κ) (r : Rec κ) (hk : r.kind = .ter ∨ r.kind = .model) :
    (step s r).1.nterm = .next ∧ (step s r).2 = false := by
  unfold step; rcases hk with hk | hk <;> simp [hk]

/-- a terminal oxygen closes the chain and its residue is remembered -/
theorem oxt_closes_chain {κ : Type} [DecidableEq κ] (s : St κ) (r : Rec κ) (hk : r.kind = .atom) (hs : r.skip = false)
    (ho : r.isOxt = true) : (step s r).1 = ⟨.next, some r.key⟩ ∧ (step s r).2 = false := by
  unfold step; simp [hk, hs, ho]

/-- after a terminal oxygen the next ATOM residue with a different key opens a new chain, atoms of the same residue do not -/
theorem after_oxt_next_residue {κ : Type} [DecidableEq κ] (k : κ) (r : Rec κ) (hk : r.kind = .atom) (hs : r.skip = false)
    (ho : r.isOxt = false) :
    (r.key ≠ k → (step (⟨.next, some k⟩ : St κ) r).1.nterm = .key r.key ∧ (step (⟨.next, some k⟩ : St κ) r).2 = r.isN) ∧
    (r.key = k → (step (⟨.next, some k⟩ : St κ) r).1 = ⟨.next, some k⟩ ∧ (step (⟨.next, some k⟩ : St κ) r).2 = false) := by
  unfold step
  constructor
  · intro hne
    simp [hk, hs, ho, hne.symm]
  · intro he; subst he; simp [hk, hs, ho]

/-- inside a chain only atoms named `N` of the opening residue are tagged -/
theorem inside_chain {κ : Type} [DecidableEq κ] (k : κ) (o : Option κ) (r : Rec κ) (hk : r.kind = .atom) (hs : r.skip = false)
    (ho : r.isOxt = false) : (step (⟨.key k, o⟩ : St κ) r).2 = (r.isN && decide (k = r.key)) ∧
      (step (⟨.key k, o⟩ : St κ) r).1 = ⟨.key k, o⟩ := by
  unfold step; simp [hk, hs, ho]

/-- HETATM records and records that are not ATOM/HETATM/MODEL/TER never change the bookkeeping -/
theorem hetatm_other_noop {κ : Type} [DecidableEq κ] (s : St κ) (r : Rec κ) (h : r.kind = .other ∨ r.kind = .hetatm) :
    step s r = (s, false) := by
  unfold step; rcases h with h | h <;> simp [h]

end Propka.Pdb

namespace Propka.Groups
open Propka.Gen.Cfg

/-- the shipped tables as the real `Parameters` object holds them, and the `type` of each Group class -/
def shipped : Tables :=
  { mapping := f_protein_group_mapping,
    classType := creatable.map fun c => (c.1, c.2.1),
    charge := f_charge, ions := f_ions, modelPkas := f_model_pkas, customPkas := f_custom_model_pkas,
    writeOutOrder := f_write_out_order }

/-- the defining atoms of the seven side chains map to the classes whose `type` carries the right
    charge, and residue types carry the tabulated model pKa values (in millionths) -/
theorem inst_site_table :
    [("ASP-CG", "ASP"), ("GLU-CD", "GLU"), ("HIS-CG", "HIS"), ("CYS-SG", "CYS"), ("TYR-OH", "TYR"), ("LYS-NZ", "LYS"), ("ARG-CZ", "ARG")].map
      (fun kr => ((lookup shipped.mapping kr.1).bind (fun m => lookup shipped.classType (m ++ "Group"))).bind (lookup shipped.charge) |>.map (fun q => (q, lookup shipped.modelPkas kr.2)))
    = [some (-1000000, some 3800000), some (-1000000, some 4500000), some (1000000, some 6500000), some (-1000000, some 9000000),
       some (-1000000, some 10000000), some (1000000, some 10500000), some (1000000, some 12500000)]
    ∧ lookup shipped.modelPkas "N+" = some 8000000 ∧ lookup shipped.modelPkas "C-" = some 3200000
    ∧ (lookup shipped.classType "NtermGroup").bind (lookup shipped.charge) = some 1000000
    ∧ (lookup shipped.classType "CtermGroup").bind (lookup shipped.charge) = some (-1000000) := by decide +kernel

def atomOf (res name term : String) : AtomInfo := ⟨"atom", name, res, "A", 7, " ", term, 0, false⟩

/-- end to end on the model: each of the nine kinds of site yields one titratable group of the right
    residue type, charge and model pKa -/
theorem inst_sites_recognised :
    ([atomOf "ASP" "CG" "", atomOf "GLU" "CD" "", atomOf "HIS" "CG" "", atomOf "CYS" "SG" "", atomOf "TYR" "OH" "",
      atomOf "LYS" "NZ" "", atomOf "ARG" "CZ" "", atomOf "ALA" "N" "N+", atomOf "ALA" "OXT" "C-"].map
        (fun a => (mkGroup shipped none a).map (fun g => (g.residueType, g.charge, g.modelPka, g.titratable, g.reported))))
    = [some ("ASP", -1000000, some 3800000, true, true), some ("GLU", -1000000, some 4500000, true, true),
       some ("HIS", 1000000, some 6500000, true, true), some ("CYS", -1000000, some 9000000, true, true),
       some ("TYR", -1000000, some 10000000, true, true), some ("LYS", 1000000, some 10500000, true, true),
       some ("ARG", 1000000, some 12500000, true, true), some ("N+", 1000000, some 8000000, true, true),
       some ("C-", -1000000, some 3200000, true, true)] := by decide +kernel

/-- **One group per defining atom, nothing else**: the groups are the images of the atoms the
    classifier accepts, in atom order (for every atom list and every titrate-only list). -/
theorem groups_are_classified_atoms (T : Tables) (to : Option (List (String × Int × String))) (atoms : List AtomInfo) :
    (extractGroups T to atoms).map (·.atom) = atoms.filter (fun a => (classOf T a).isSome) := by
  unfold extractGroups
  induction atoms with
  | nil => rfl
  | cons a as ih =>
    rw [List.filterMap_cons, List.filter_cons, mkGroup_eq]
    cases classOf T a
    · exact ih
    · exact congrArg (a :: ·) ih

/-- **A bridged cysteine is not titrated and is fixed at 99.99.** -/
theorem bridged_not_titrated (T : Tables) (to : Option (List (String × Int × String))) (a : AtomInfo) (g : GroupRec)
    (hb : a.bridged = true) (h : mkGroup T to a = some g) : g.titratable = false ∧ g.fixedPka = some 99990000 := by
  obtain ⟨c, -, rfl⟩ := mkGroup_eq_some h
  simp [setupOf, hb, GroupRec.fixedPka]

/-- a titratable group carries the model pKa of its residue type, or the custom value configured for
    its residue-atom pair (DNA bases) -/
theorem model_pka_from_table (T : Tables) (to : Option (List (String × Int × String))) (a : AtomInfo) (g : GroupRec)
    (h : mkGroup T to a = some g) (ht : g.titratable = true) :
    ∃ p, lookup T.modelPkas g.residueType = some p ∧
      g.modelPka = some ((lookup T.customPkas (strip a.resName ++ "-" ++ strip a.name)).getD p) := by
  obtain ⟨c, -, rfl⟩ := mkGroup_eq_some h
  simp only [setupOf] at ht ⊢
  cases hm : lookup T.modelPkas (residueTypeOf c a) with
  | none => rw [hm] at ht; cases ht
  | some p => exact ⟨p, rfl, rfl⟩

/-- an ion group gets the charge configured for its residue name -/
theorem ion_charge (T : Tables) (to : Option (List (String × Int × String))) (a : AtomInfo) (g : GroupRec) (q : Int)
    (h : mkGroup T to a = some g) (hi : lookup T.ions g.residueType = some q) : g.charge = q := by
  obtain ⟨c, -, rfl⟩ := mkGroup_eq_some h
  simp only [setupOf] at hi ⊢
  rw [hi]

/-- **Exactly once.** If the write-out order has no duplicates and contains the residue type of a
    group, the group occurs in the summary as often as in the group list (once for a group created
    from one atom). -/
theorem summary_once {γ : Type} [DecidableEq γ] (order : List String) (rt : γ → String) (groups : List γ) (g : γ)
    (hnd : order.Nodup) (hmem : rt g ∈ order) : (summaryRows order rt groups).count g = groups.count g := by
  rw [count_summaryRows, hnd.count, if_pos hmem, Nat.one_mul]

/-- obligations on the shipped order: no duplicates, and it contains every residue type that a
    reported group can carry (every creatable kind with a model pKa; CYS is among them) -/
theorem inst_order_ok : f_write_out_order.Nodup ∧ ∀ kv ∈ titratableKinds, kv.1 ∈ f_write_out_order := by decide +kernel

end Propka.Groups
