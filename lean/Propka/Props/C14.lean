import Propka.Model.Groups
import Propka.Proofs.ResList
/-! # C14 — titrate_only restricts titration exactly to the listed residues

`mkGroup` / `extractGroups` are the model of `is_group` + `Group.setup` + `init_group` (the only
place where the option is read); the list holds `(chain_id, res_num, icode)` triples. -/
namespace Propka.Groups

abbrev Key := String × Int × String
def keyOf (a : AtomInfo) : Key := (a.chain, a.resNum, a.icode)

/-- whether the option lets the residue of `a` titrate -/
def listed (to : Option (List Key)) (a : AtomInfo) : Bool :=
  match to with
  | none => true
  | some l => l.contains (keyOf a)

/-- the option takes part in two fields only: the group is the one made without it, with those two adjusted -/
theorem mkGroup_titrateOnly (T : Tables) (to : Option (List Key)) (a : AtomInfo) :
    mkGroup T to a = (mkGroup T none a).map fun g =>
      { g with titratable := g.titratable && listed to a, excludeCys := !listed to a && g.residueType == "CYS" } := by
  unfold mkGroup
  cases classOf T a with
  | none => rfl
  | some c => cases to <;> simp [listed, keyOf]

theorem extractGroups_congr (T : Tables) (to to' : Option (List Key)) (atoms : List AtomInfo)
    (h : ∀ a ∈ atoms, listed to a = listed to' a) : extractGroups T to atoms = extractGroups T to' atoms := by
  unfold extractGroups
  induction atoms with
  | nil => rfl
  | cons a as ih =>
    rw [List.filterMap_cons, List.filterMap_cons, mkGroup_titrateOnly T to, mkGroup_titrateOnly T to', h a (.head _),
      ih fun b hb => h b (.tail _ hb)]

/-- **Exactly the listed residues titrate**: with a list `L`, a group is titratable iff it would be
    without the option and its residue is listed; it is reported iff it is titratable, or it is a
    listed cysteine; everything else about the group (class, type, residue type, charge, model pKa) is
    what it is without the option — so it still takes part as partner and environment. -/
theorem titrate_only_exact (T : Tables) (L : List Key) (a : AtomInfo) :
    match mkGroup T none a, mkGroup T (some L) a with
    | none, none => True
    | some g0, some g =>
        g.titratable = (g0.titratable && L.contains (keyOf a)) ∧
        g.reported = (g.titratable || (g.residueType == "CYS" && L.contains (keyOf a))) ∧
        g.cls = g0.cls ∧ g.type = g0.type ∧ g.residueType = g0.residueType ∧ g.charge = g0.charge ∧
        g.modelPka = g0.modelPka ∧ g.atom = g0.atom ∧ g.bridged = g0.bridged
    | _, _ => False := by
  rw [mkGroup_titrateOnly T (some L)]
  cases mkGroup T none a with
  | none => trivial
  | some g0 =>
    simp only [listed]
    cases L.contains (keyOf a) <;> simp [GroupRec.reported]

/-- **The environment is kept**: the same atoms yield groups with and without the option, in the same order. -/
theorem environment_kept (T : Tables) (L : List Key) (atoms : List AtomInfo) :
    (extractGroups T (some L) atoms).map (fun g => (g.atom, g.cls, g.type, g.charge)) =
    (extractGroups T none atoms).map (fun g => (g.atom, g.cls, g.type, g.charge)) := by
  simp only [extractGroups, List.map_filterMap]
  congr 1
  funext a
  rw [mkGroup_titrateOnly T (some L)]
  cases mkGroup T none a <;> rfl

/-- **Listing every residue is the same as not giving the option.** -/
theorem all_listed_identity (T : Tables) (L : List Key) (atoms : List AtomInfo)
    (h : ∀ a ∈ atoms, L.contains (keyOf a) = true) :
    extractGroups T (some L) atoms = extractGroups T none atoms :=
  extractGroups_congr T _ _ atoms h

/-- **Entries that name no residue of the structure have no effect.** -/
theorem absent_entries_noop (T : Tables) (L extra : List Key) (atoms : List AtomInfo)
    (h : ∀ a ∈ atoms, extra.contains (keyOf a) = false) :
    extractGroups T (some (L ++ extra)) atoms = extractGroups T (some L) atoms :=
  extractGroups_congr T _ _ atoms fun a ha => by simp only [listed, List.contains_append, h a ha, Bool.or_false]

/-- the order of the list and repeated entries are irrelevant: only membership is used -/
theorem list_as_set (T : Tables) (L L' : List Key) (atoms : List AtomInfo)
    (h : ∀ k, L.contains k = L'.contains k) : extractGroups T (some L) atoms = extractGroups T (some L') atoms :=
  extractGroups_congr T _ _ atoms fun a _ => h (keyOf a)

/-- residues that share chain and number and differ in the insertion code are matched separately -/
example : keyOf ⟨"atom", "CG", "ASP", "A", 52, "A", "", 0, false⟩ ≠ keyOf ⟨"atom", "CG", "ASP", "A", 52, " ", "", 0, false⟩ := by decide

end Propka.Groups

/-! ## the text of the option: `chain:resnum[inscode]`, comma separated -/
namespace Propka.ResList
open Propka.Py
deriving instance DecidableEq for Except

/-- **An entry without insertion code**: `chain:number` is read as (chain, number, ' ') -/
theorem entry_plain (chain num : Str) (n : Int) (hc : ':' ∉ chain) (hn : ':' ∉ num) (hp : parseInt num = some n) :
    parseResString (chain ++ ':' :: num) = .ok (chain, n, ' ') := by
  unfold parseResString
  rw [splitOn_append ':' chain num hc, splitOn_free ':' num hn]
  simp [hp]

/-- **An entry with insertion code**: when the text after the colon is not a number but becomes one without its last
    character, that character is the insertion code -/
theorem entry_icode (chain num : Str) (ic : Char) (n : Int) (hc : ':' ∉ chain) (hn : ':' ∉ num) (hi : ic ≠ ':')
    (hbad : parseInt (num ++ [ic]) = none) (hp : parseInt num = some n) :
    parseResString (chain ++ ':' :: (num ++ [ic])) = .ok (chain, n, ic) := by
  unfold parseResString
  have hn' : ':' ∉ num ++ [ic] := fun h => (List.mem_append.mp h).elim hn fun h => hi (List.mem_singleton.mp h).symm
  rw [splitOn_append ':' chain _ hc, splitOn_free ':' _ hn']
  simp [hbad, hp]

/-- a text without a colon is rejected -/
theorem entry_no_colon (s : Str) (h : ':' ∉ s) : parseResString s = .error .colons := by
  unfold parseResString; rw [splitOn_free ':' s h]

/-- **The list is read entry by entry**: for comma-free entries, the text `e1,e2,...` parses to the parsed entries in order
    (and fails with the error of the first bad one) -/
theorem list_is_mapM (es : List Str) (hne : es ≠ []) (h : ∀ e ∈ es, ',' ∉ e) :
    parseResList (List.intercalate [','] es) = es.mapM parseResString := by
  rw [parseResList, splitOn_intercalate ',' es hne h]

example : parseResList "E:17,E:48A,I:-5".toList = .ok [("E".toList, 17, ' '), ("E".toList, 48, 'A'), ("I".toList, -5, ' ')] := by decide
example : parseResList "E17".toList = .error .colons := by decide
example : parseResList "A:1,B:".toList = .error .number := by decide
example : parseResList "A:1:2".toList = .error .colons := by decide
end Propka.ResList
