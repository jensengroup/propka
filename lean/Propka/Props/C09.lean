import Propka.Proofs.Profiles
/-! # C09 — charge curves and isoelectric points follow Henderson–Hasselbalch

The definitions are the generic model `Propka.Profiles` at `ℝ` (`10^x` and `log₁₀` are Mathlib's);
the same definitions run at `Float` in the driver. -/
namespace Propka.Profiles
open Set

/-- **Half charge at pH = pKa.** -/
theorem group_charge_half (q pk : ℝ) : chargeAt q pk pk = q / 2 := charge_half q pk

/-- **Between zero and the formal charge**, for a base (`q > 0`) and for an acid (`q < 0`). -/
theorem group_charge_between (q pk ph : ℝ) :
    (0 < q → 0 < chargeAt q pk ph ∧ chargeAt q pk ph < q) ∧ (q < 0 → q < chargeAt q pk ph ∧ chargeAt q pk ph < 0) := by
  obtain ⟨h0, h1⟩ := hh_mem (q * (pk - ph))
  rw [chargeAt_eq]
  exact ⟨fun hq => ⟨mul_pos hq h0, mul_lt_of_lt_one_right hq h1⟩,
    fun hq => ⟨lt_mul_of_lt_one_right hq h1, mul_neg_of_neg_of_pos hq h0⟩⟩

/-- **Never increases with pH**, whatever the sign of the formal charge. -/
theorem group_charge_antitone (q pk : ℝ) : Antitone (chargeAt q pk) := charge_antitone q pk

/-- **The reported protein charges are the sums of the group charges**: unfolded with the model
    pKa values (first), folded with the predicted ones (second), over the titratable groups only. -/
theorem protein_charge_is_sum (gs : List (TGroup ℝ)) (ph : ℝ) :
    confCharge gs ph = (((gs.filter (·.titratable)).map fun g => chargeAt g.charge g.modelPka ph).sum,
                        ((gs.filter (·.titratable)).map fun g => chargeAt g.charge g.pka ph).sum) :=
  confCharge_eq gs ph

/-- every row of the charge profile is `(pH, Q_unfolded(pH), Q_folded(pH))` at a grid point, in grid order -/
theorem profile_rows (gs : List (TGroup ℝ)) (grid : List ℝ) :
    chargeProfile gs grid = grid.map fun ph => (ph, (confCharge gs ph).1, (confCharge gs ph).2) := rfl

theorem folded_charge_antitone (gs : List (TGroup ℝ)) : Antitone fun ph => (confCharge gs ph).2 := by
  simp only [confCharge_eq]; exact totalCharge_antitone _ gs

theorem unfolded_charge_antitone (gs : List (TGroup ℝ)) : Antitone fun ph => (confCharge gs ph).1 := by
  simp only [confCharge_eq]; exact totalCharge_antitone _ gs

/-- **Each reported pI is within the stated precision of a root** of its total-charge curve, whenever
    that curve is positive at the window minimum and non-positive at the maximum (it changes sign
    inside the window), the precision is positive and the recursion is allowed enough halvings;
    the folded pI (first component) is a root of the curve built from the *predicted* pKa values,
    the unfolded pI (second) of the one built from the *model* pKa values. -/
theorem pi_is_root (gs : List (TGroup ℝ)) (lo hi prec : ℝ) (fuel : ℕ) (hprec : 0 < prec) (hlh : lo ≤ hi)
    (hfuel : hi - lo ≤ prec * 2 ^ fuel) :
    (0 < (confCharge gs lo).2 → (confCharge gs hi).2 ≤ 0 →
      ∃ r ∈ Icc lo hi, (confCharge gs r).2 = 0 ∧ |(getPi gs lo hi prec 2 fuel).1 - r| ≤ prec) ∧
    (0 < (confCharge gs lo).1 → (confCharge gs hi).1 ≤ 0 →
      ∃ r ∈ Icc lo hi, (confCharge gs r).1 = 0 ∧ |(getPi gs lo hi prec 2 fuel).2 - r| ≤ prec) := by
  have root := fun pk => bisect_root (totalCharge pk gs) prec hprec fuel lo hi hlh (totalCharge_continuous pk gs).continuousOn
  simp only [getPi, confCharge_eq]
  exact ⟨fun h1 h2 => root _ h1 h2 hfuel, fun h1 h2 => root _ h1 h2 hfuel⟩

/-- with the default window (0, 14) and precision 1e-4, eighteen halvings suffice -/
theorem default_fuel : (14:ℝ) - 0 ≤ 1e-4 * 2 ^ 18 := by norm_num

/-! ### Non-vacuity: one acid (pKa 4) and one base (pKa 10); the folded curve changes sign in [4, 10] -/
theorem frac_lt_half (x : ℝ) (h0 : 0 < x) (h1 : x < 1) : x / (1 + x) < 1 / 2 := by
  rw [div_lt_div_iff₀ (by linarith) (by norm_num)]; linarith

example : let gs : List (TGroup ℝ) := [⟨-1, 4, 4, true, []⟩, ⟨1, 10, 10, true, []⟩]
    0 < (confCharge gs 4).2 ∧ (confCharge gs 10).2 ≤ 0 := by
  intro gs
  have e : ∀ ph, (confCharge gs ph).2 = chargeAt (-1) 4 ph + (chargeAt 1 10 ph + 0) := fun ph => by
    rw [confCharge_eq]; rfl
  rw [e, e, charge_half, charge_half, charge_pos_one, charge_neg_one]
  have f1 : hh (4 - 10) < 1 / 2 :=
    frac_lt_half _ (Real.rpow_pos_of_pos (by norm_num) _) (Real.rpow_lt_one_of_one_lt_of_neg (by norm_num) (by norm_num))
  have f2 : 1 / 2 ≤ hh (10 - 4) := hh_zero ▸ hh_mono (by norm_num)
  constructor <;> linarith

end Propka.Profiles
