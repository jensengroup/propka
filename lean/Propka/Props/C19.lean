import Propka.Proofs.Hybrid36
/-! # C19 — hybrid-36 decoding: property theorems

`decode` is the model of `propka.hybrid36.decode`; `encode` is the reference encoder of the
hybrid-36 format.  Everything here is for all widths `w ≥ 1` and all values, by induction on
digit lists — not by enumeration. -/
namespace Propka.H36

/-- a field: the payload with any number of blanks on either side -/
def pad (k j : Nat) (s : Str) : Str := List.replicate k ' ' ++ s ++ List.replicate j ' '

theorem decode_pad (k j : Nat) (s : Str) : decode (pad k j s) = decode s := by
  unfold decode pad
  rw [strip_pad_right, strip_pad_left]

/-- One walk over the branches of `encode` (negative; decimal; upper-case; lower-case): what it returns fits the field and
    decodes to `n`. -/
theorem encode_spec (w : Nat) (hw : 1 ≤ w) (n : Int) (s : Str) (h : encode w n = some s) :
    s.length ≤ w ∧ decode s = .ok n := by
  obtain ⟨w, rfl⟩ := Nat.exists_eq_add_one.mpr hw
  have hP : 36 ^ (w+1) = 36 * 36 ^ w := Nat.pow_succ'   -- for `omega`, to which `36 ^ w` is an atom
  unfold encode at h
  rw [Nat.add_sub_cancel] at h
  split at h
  · split at h
    · cases h
      exact ⟨by rw [List.length_cons, decStr, enc_length]; assumption, by rw [decode_neg_decStr]; congr 1; omega⟩
    · cases h
  · obtain ⟨m, rfl⟩ := Int.eq_ofNat_of_zero_le (Int.not_lt.mp ‹_›)
    simp only [Int.toNat_natCast] at h
    split at h
    · cases h
      exact ⟨by rw [decStr, enc_length, decLen_le_iff]; assumption, decode_decStr m⟩
    · split at h
      · cases h
        exact ⟨Nat.le_of_eq (enc_length ..), by rw [decode_upper w _ (by omega) (by omega)]; congr 1; omega⟩
      · split at h
        · cases h
          exact ⟨Nat.le_of_eq (enc_length ..), by rw [decode_lower w _ (by omega) (by omega)]; congr 1; omega⟩
        · cases h

/-- **Round trip.** Decoding the standard encoding of `n` in a field of width `w ≥ 1`, padded or
    not, returns `n` — for every width and every representable value. -/
theorem decode_encode (w : Nat) (hw : 1 ≤ w) (n : Int) (s : Str) (k j : Nat)
    (h : encode w n = some s) : decode (pad k j s) = .ok n := by
  rw [decode_pad, (encode_spec w hw n s h).2]

/-- **Range.** A value is representable in width `w ≥ 1` exactly when
    `−10^(w−1) < n < 10^w + 52·36^(w−1)` (for `w = 5`: −9999 … 87 440 031). -/
theorem encode_isSome_iff (w : Nat) (hw : 1 ≤ w) (n : Int) :
    (encode w n).isSome ↔ (-(10 ^ (w-1) : Nat) : Int) < n ∧ n < (10 ^ w + 52 * 36 ^ (w-1) : Nat) := by
  obtain ⟨w, rfl⟩ := Nat.exists_eq_add_one.mpr hw
  have hD : 0 < n.natAbs → (decLen n.natAbs ≤ w ↔ n.natAbs < 10 ^ w) := fun hn => by
    cases w with
    | zero => have := decLen_pos n.natAbs; omega
    | succ w => exact decLen_le_iff _ w
  -- the two facts about the atom `10 ^ w` that `omega` needs below
  have hT : 10 ^ (w+1) = 10 * 10 ^ w := Nat.pow_succ'
  have hQ : 0 < 10 ^ w := Nat.pow_pos (by decide)
  unfold encode
  rw [Nat.add_sub_cancel]
  split
  · rw [Option.isSome_ite]; have := hD (by omega); omega
  · simp only [isSome_ite_some, Option.isSome_none, Bool.false_eq_true, or_false]; omega

theorem range_width5 : (-(10 ^ (5-1) : Nat) : Int) = -10000 ∧ ((10 ^ 5 + 52 * 36 ^ (5-1) : Nat) : Int) = 87440032 := by
  decide

/-- the encoding fits the field -/
theorem encode_length (w : Nat) (hw : 1 ≤ w) (n : Int) (s : Str) (h : encode w n = some s) : s.length ≤ w :=
  (encode_spec w hw n s h).1

/-- **Strictly increasing.** On representable values of one width, decoding the encodings is
    strictly increasing in the encoded value (and hence injective). -/
theorem decode_strict_mono (w : Nat) (hw : 1 ≤ w) (n m : Int) (s t : Str) (a b : Int)
    (hs : encode w n = some s) (ht : encode w m = some t)
    (ha : decode s = .ok a) (hb : decode t = .ok b) : n < m ↔ a < b := by
  rw [(encode_spec w hw n s hs).2] at ha
  rw [(encode_spec w hw m t ht).2] at hb
  cases ha; cases hb; rfl

theorem reject_empty : decode [] = .valueError := by decide
theorem reject_blank (k : Nat) : decode (List.replicate k ' ') = .valueError := by
  simpa [pad, reject_empty] using decode_pad k 0 []
theorem reject_sign_only : decode ['-'] = .valueError := by decide

/-- a digit-led field containing any non-digit (letters, `_`, `+`, `.`, inner blank …) is rejected -/
theorem reject_digits (c : Char) (rest : Str) (sign : Int) (hc : isDigit c = true)
    (hbad : ∃ ch ∈ rest, isDigit ch = false) : decodeBody sign (c :: rest) = .valueError := by
  simp [decodeBody, hc, all_false hbad]

/-- an upper-case-led field containing a character outside A–Z/0–9 (e.g. mixed case) is rejected -/
theorem reject_upper (c : Char) (rest : Str) (sign : Int) (hc : isUpper c = true) (hd : isDigit c = false)
    (hbad : ∃ ch ∈ rest, (isUpper ch || isDigit ch) = false) :
    decodeBody sign (c :: rest) = .valueError := by
  simp [decodeBody, hc, hd, all_false hbad]

theorem reject_lower (c : Char) (rest : Str) (sign : Int) (hl : isLower c = true) (hu : isUpper c = false)
    (hd : isDigit c = false) (hbad : ∃ ch ∈ rest, (isLower ch || isDigit ch) = false) :
    decodeBody sign (c :: rest) = .valueError := by
  simp [decodeBody, hl, hu, hd, all_false hbad]

/-- a field whose first character (after the optional sign) is neither digit nor letter is rejected -/
theorem reject_other (c : Char) (rest : Str) (sign : Int) (hl : isLower c = false) (hu : isUpper c = false)
    (hd : isDigit c = false) : decodeBody sign (c :: rest) = .valueError := by
  simp [decodeBody, hl, hu, hd]

/-- **Anything accepted is well-formed**: the converse of the rejection lemmas in one statement. -/
theorem accepted_wellformed (sign : Int) (s : Str) (n : Int) (h : decodeBody sign s = .ok n) :
    ∃ c rest, s = c :: rest ∧
      ((isDigit c = true ∧ rest.all isDigit = true) ∨
       (isUpper c = true ∧ rest.all (fun ch => isUpper ch || isDigit ch) = true) ∨
       (isLower c = true ∧ rest.all (fun ch => isLower ch || isDigit ch) = true)) := by
  cases s with
  | nil => cases h
  | cons c rest =>
    refine ⟨c, rest, rfl, ?_⟩
    rcases gate_ok h with hd | h
    · exact .inl hd
    rcases gate_ok h with hu | h
    · exact .inr (.inl hu)
    rcases gate_ok h with hl | h
    · exact .inr (.inr hl)
    · cases h

/-! ### Non-vacuity and the unit-test vectors -/
example : encode 5 87440031 = some "zzzzz".toList ∧ encode 5 (-9999) = some "-9999".toList
    ∧ encode 5 100000 = some "A0000".toList ∧ encode 5 43770016 = some "a0000".toList
    ∧ encode 5 87440032 = none ∧ encode 5 (-10000) = none ∧ encode 1 0 = some ['0'] := by decide +kernel
example : decode "    5".toList = .ok 5 ∧ decode "ZZZZZ".toList = .ok 43770015
    ∧ decode " -0 ".toList = .ok 0 ∧ decode "A000a".toList = .valueError
    ∧ decode "1_2".toList = .valueError ∧ decode "40a".toList = .valueError := by decide

end Propka.H36
