import Propka.Proofs.Dets
import Propka.Proofs.Basics
/-! # C15 — coupling analysis observes without disturbing -/
namespace Propka.Dets

/-- what a group's results consist of, up to the order of its determinant lists -/
def SameResults (a b : GRec ℚ) : Prop :=
  a.label = b.label ∧ a.pka = b.pka ∧ a.model = b.model ∧ a.evol = b.evol ∧ a.eloc = b.eloc ∧
  a.sc.Perm b.sc ∧ a.bb.Perm b.bb ∧ a.cb.Perm b.cb ∧ a.bridged = b.bridged

theorem sameResults_refl (g : GRec ℚ) : SameResults g g :=
  ⟨rfl, rfl, rfl, rfl, rfl, .refl _, .refl _, .refl _, rfl⟩

theorem sameResults_trans {a b c : GRec ℚ} (h1 : SameResults a b) (h2 : SameResults b c) : SameResults a c := by
  obtain ⟨a1, a2, a3, a4, a5, a6, a7, a8, a9⟩ := h1
  obtain ⟨b1, b2, b3, b4, b5, b6, b7, b8, b9⟩ := h2
  exact ⟨a1.trans b1, a2.trans b2, a3.trans b3, a4.trans b4, a5.trans b5, a6.trans b6, a7.trans b7, a8.trans b8, a9.trans b9⟩

/-- The total reads a record only through what `SameResults` compares: recomputed on a record that agrees with an up-to-date
    `g` in everything but the pKa, it gives the results of `g`. -/
theorem total_sameResults (fixed : ℚ) {g' g : GRec ℚ} (h : SameResults { g' with pka := g.pka } g) (hu : UpToDate fixed g) :
    SameResults (calculateTotal fixed g') g := by
  obtain ⟨h1, -, h3, h4, h5, h6, h7, h8, h9⟩ := h
  unfold UpToDate at hu
  rw [calculateTotal_eq] at hu ⊢
  refine ⟨h1, ?_, h3, h4, h5, h6, h7, h8, h9⟩
  rw [h9, h3, h4, h5, vsum_perm _ _ h6, vsum_perm _ _ h7, vsum_perm _ _ h8, hu]

/-- the state of a pair after its analysis: swapped, and swapped back -/
def probePair (fixed : ℚ) (g1 g2 : GRec ℚ) : GRec ℚ × GRec ℚ :=
  swap fixed (swap fixed g1 g2).1 (swap fixed g1 g2).2

/-- `g'` may stand for `g`: if `g` was up to date, `g'` has its results and is up to date.  What the analysis of a pair leaves
    of a record is related in this way to what it found, whatever the other record of the pair was; being reflexive and
    transitive, the relation holds across any sequence of analyses. -/
def Restores (fixed : ℚ) (g' g : GRec ℚ) : Prop := UpToDate fixed g → SameResults g' g ∧ UpToDate fixed g'

theorem Restores.refl (fixed : ℚ) (g : GRec ℚ) : Restores fixed g g := fun h => ⟨sameResults_refl g, h⟩

theorem Restores.trans {fixed : ℚ} {a b c : GRec ℚ} (h1 : Restores fixed a b) (h2 : Restores fixed b c) : Restores fixed a c :=
  fun hc => ⟨sameResults_trans (h1 (h2 hc).2).1 (h2 hc).1, (h1 (h2 hc).2).2⟩

theorem swap_twice_fst (fixed : ℚ) (g1 g2 : GRec ℚ) : Restores fixed (probePair fixed g1 g2).1 g1 := fun h1 => by
  refine ⟨total_sameResults fixed ?_ h1, total_uptodate ..⟩
  simp only [swap, calculateTotal_eq]
  exact ⟨rfl, rfl, rfl, rfl, rfl, transfer_twice_fst .., .refl _, transfer_twice_fst .., rfl⟩

/-- **Every temporary swap is undone exactly**: swapping the interactions of two groups twice gives
    back both groups' pKa values, desolvation terms and determinants (each determinant with its
    original partner label; list order may change).  No hypothesis on the labels is needed. -/
theorem swap_twice (fixed : ℚ) (g1 g2 : GRec ℚ) :
    Restores fixed (probePair fixed g1 g2).1 g1 ∧ Restores fixed (probePair fixed g1 g2).2 g2 :=
  -- by definition the second record of a swap is the first record of the swap with the two roles exchanged
  ⟨swap_twice_fst fixed g1 g2, swap_twice_fst fixed g2 g1⟩

/-- while swapped, the two groups exchange exactly the value directed at each other: the sum of the
    two groups' determinant totals is unchanged by a swap -/
theorem swap_conserves_total (fixed : ℚ) (g1 g2 : GRec ℚ) :
    vsum (swap fixed g1 g2).1.cb + vsum (swap fixed g1 g2).2.cb = vsum g1.cb + vsum g2.cb ∧
    vsum (swap fixed g1 g2).1.sc + vsum (swap fixed g1 g2).2.sc = vsum g1.sc + vsum g2.sc := by
  simp only [swap, calculateTotal_eq]
  exact ⟨transfer_total .., transfer_total ..⟩

/-- Every exit of the probe leaves the pair as it was (the first two gates) or swapped twice (the others); whatever holds of
    these two states, with any verdict, holds of the probe. -/
theorem probe_cases {α : Type} [Add α] [Sub α] [Mul α] [Div α] [Neg α] [NatCast α] [LT α] [LE α] [DecidableLT α] [DecidableLE α]
    (fixed : α) (p : ProbeP α) (energy : α → GRec α → GRec α → α) (i1 i2 : α) (g1 g2 : GRec α)
    (P : (GRec α × GRec α) × Option (ProbeRes α) → Prop) (h0 : P ((g1, g2), none))
    (h1 : ∀ r, P (swap fixed (swap fixed g1 g2).1 (swap fixed g1 g2).2, r)) : P (probe fixed p energy i1 i2 g1 g2) :=
  iteInduction (fun _ => h0) fun _ => iteInduction (fun _ => h0) fun _ =>
    iteInduction (fun _ => h1 _) fun _ => iteInduction (fun _ => h1 _) fun _ => iteInduction (fun _ => h1 _) fun _ => h1 _

/-- whatever the gates decide, the probe leaves the pair either untouched or swapped twice -/
theorem probe_state (fixed : ℚ) (p : ProbeP ℚ) (energy : ℚ → GRec ℚ → GRec ℚ → ℚ) (i1 i2 : ℚ) (g1 g2 : GRec ℚ) :
    (probe fixed p energy i1 i2 g1 g2).1 = (g1, g2) ∨ (probe fixed p energy i1 i2 g1 g2).1 = probePair fixed g1 g2 :=
  probe_cases fixed p energy i1 i2 g1 g2 (fun r => r.1 = (g1, g2) ∨ r.1 = probePair fixed g1 g2) (Or.inl rfl) fun _ => Or.inr rfl

/-- Each of the two groups on its own.  (Nothing is asked of the other group, which may even be a stand-in for an index outside
    the table.) -/
theorem probe_kept (fixed : ℚ) (p : ProbeP ℚ) (energy : ℚ → GRec ℚ → GRec ℚ → ℚ) (i1 i2 : ℚ) (g1 g2 : GRec ℚ) :
    Restores fixed (probe fixed p energy i1 i2 g1 g2).1.1 g1 ∧ Restores fixed (probe fixed p energy i1 i2 g1 g2).1.2 g2 :=
  probe_cases fixed p energy i1 i2 g1 g2 (fun r => Restores fixed r.1.1 g1 ∧ Restores fixed r.1.2 g2)
    ⟨.refl _ _, .refl _ _⟩ fun _ => swap_twice fixed g1 g2

/-- **The probe observes without disturbing**: on every path through its gates (interaction too weak, pKa values out of
    range, free-energy difference too large, swap shift too small, intrinsic pKa values too far apart, or coupled) both
    groups end with the results they had - pKa, desolvation terms and every determinant with its original partner label. -/
theorem probe_restores (fixed : ℚ) (p : ProbeP ℚ) (energy : ℚ → GRec ℚ → GRec ℚ → ℚ) (i1 i2 : ℚ) (g1 g2 : GRec ℚ)
    (h1 : UpToDate fixed g1) (h2 : UpToDate fixed g2) :
    SameResults (probe fixed p energy i1 i2 g1 g2).1.1 g1 ∧ SameResults (probe fixed p energy i1 i2 g1 g2).1.2 g2 :=
  have h := probe_kept fixed p energy i1 i2 g1 g2
  ⟨(h.1 h1).1, (h.2 h2).1⟩

/-- … and stay up to date, so that the probes of all pairs can follow one another -/
theorem probe_keeps_uptodate (fixed : ℚ) (p : ProbeP ℚ) (energy : ℚ → GRec ℚ → GRec ℚ → ℚ) (i1 i2 : ℚ) (g1 g2 : GRec ℚ)
    (h1 : UpToDate fixed g1) (h2 : UpToDate fixed g2) :
    UpToDate fixed (probe fixed p energy i1 i2 g1 g2).1.1 ∧ UpToDate fixed (probe fixed p energy i1 i2 g1 g2).1.2 :=
  have h := probe_kept fixed p energy i1 i2 g1 g2
  ⟨(h.1 h1).2, (h.2 h2).2⟩

/-- the invariant of the search: every row of `gs` may stand for the same row of the start table `gs0` -/
def Kept (fixed : ℚ) (dflt : GRec ℚ) (gs0 gs : Array (GRec ℚ)) : Prop :=
  gs.size = gs0.size ∧ ∀ i, i < gs0.size → Restores fixed (gs.getD i dflt) (gs0.getD i dflt)

theorem Kept.refl {fixed : ℚ} {dflt : GRec ℚ} {gs : Array (GRec ℚ)} : Kept fixed dflt gs gs :=
  ⟨rfl, fun _ _ => .refl _ _⟩

theorem Kept.set₂ {fixed : ℚ} {dflt : GRec ℚ} {gs0 gs : Array (GRec ℚ)} (h : Kept fixed dflt gs0 gs) (i j : Nat) {x y : GRec ℚ}
    (hx : Restores fixed x (gs.getD i dflt)) (hy : Restores fixed y (gs.getD j dflt)) :
    Kept fixed dflt gs0 ((gs.setIfInBounds i x).setIfInBounds j y) :=
  have ⟨h1, h2⟩ := forall_getD_setIfInBounds (P := fun k g => Restores fixed g (gs0.getD k dflt)) h.1 h.2 i x
    fun l => hx.trans (h.2 i l)
  forall_getD_setIfInBounds (P := fun k g => Restores fixed g (gs0.getD k dflt)) h1 h2 j y fun l => hy.trans (h.2 j l)

/-- The search over any list of pairs whatsoever - a group paired with itself, an index outside the table - keeps the table. -/
theorem identify_keeps (fixed : ℚ) (p : ProbeP ℚ) (energy : Array (GRec ℚ) → ℚ → GRec ℚ → GRec ℚ → ℚ) (intr : GRec ℚ → ℚ) (dflt : GRec ℚ)
    (pairs : List (Nat × Nat)) (gs : Array (GRec ℚ)) : Kept fixed dflt gs (identify fixed p energy intr dflt pairs gs) := by
  refine List.foldlRecOn (motive := Kept fixed dflt gs) pairs _ .refl fun A hA ab _ => ?_
  have hk := probe_kept fixed p (energy A) (intr (A.getD ab.1 dflt)) (intr (A.getD ab.2 dflt)) (A.getD ab.1 dflt) (A.getD ab.2 dflt)
  exact hA.set₂ ab.1 ab.2 hk.1 hk.2

/-- **The whole coupling search observes without disturbing**: after the probes of all visited pairs (any list of pairs of two
    different groups of the table, any thresholds, any energy function, any intrinsic pKa values) every group has the results
    it had before the search - pKa, both desolvation terms, every determinant with its original partner label - and is up to
    date. -/
theorem identify_preserves (fixed : ℚ) (p : ProbeP ℚ) (energy : Array (GRec ℚ) → ℚ → GRec ℚ → GRec ℚ → ℚ) (intr : GRec ℚ → ℚ) (dflt : GRec ℚ)
    (pairs : List (Nat × Nat)) (gs : Array (GRec ℚ))
    (hp : ∀ ab ∈ pairs, ab.1 ≠ ab.2 ∧ ab.1 < gs.size ∧ ab.2 < gs.size)
    (hu : ∀ i, i < gs.size → UpToDate fixed (gs.getD i dflt)) :
    (identify fixed p energy intr dflt pairs gs).size = gs.size ∧
    ∀ i, i < gs.size → SameResults ((identify fixed p energy intr dflt pairs gs).getD i dflt) (gs.getD i dflt) ∧
      UpToDate fixed ((identify fixed p energy intr dflt pairs gs).getD i dflt) :=
  have h := identify_keeps fixed p energy intr dflt pairs gs
  ⟨h.1, fun i hi => h.2 i hi (hu i hi)⟩

/-- not vacuous: two groups with two determinants towards each other -/
example : let g1 : GRec ℚ := ⟨"ASP   1 A", 38/10, 0, 0, [⟨"GLU   2 A", "GLU   2 A", 1/2⟩], [], [⟨"GLU   2 A", "GLU   2 A", 3/10⟩, ⟨"LYS   3 A", "LYS   3 A", -1/5⟩], 44/10, false, []⟩
    let g2 : GRec ℚ := ⟨"GLU   2 A", 45/10, 0, 0, [⟨"ASP   1 A", "ASP   1 A", -1/2⟩], [], [], 4, false, []⟩
    UpToDate (9999/100) g1 ∧ UpToDate (9999/100) g2 ∧ (swap (9999/100) g1 g2).1.pka = 31/10 ∧ (probePair (9999/100) g1 g2).1.pka = 44/10 := by
  intro g1 g2
  simp only [UpToDate, probePair, g1, g2]
  refine ⟨by decide +kernel, by decide +kernel, by decide +kernel, by decide +kernel⟩

theorem pyAbs_nonneg (x : ℚ) : 0 ≤ pyAbs x := by
  unfold pyAbs; simp only [Nat.cast_zero, add_zero]; split <;> linarith

theorem quad_factor_range (d m : ℚ) (hm : 0 < m) (h0 : 0 ≤ d) :
    0 ≤ (if d ≤ m then 1 - sq (d / m) else 0) ∧ (if d ≤ m then 1 - sq (d / m) else 0) ≤ 1 := by
  unfold sq
  split
  · next h =>
    have hd1 : d / m ≤ 1 := (div_le_one₀ hm).mpr h
    exact ⟨sub_nonneg.mpr (mul_le_one₀ hd1 (div_nonneg h0 hm.le) hd1), sub_le_self _ (mul_self_nonneg _)⟩
  · exact ⟨le_refl _, zero_le_one⟩

/-- the three scaling factors lie in [0, 1] (thresholds positive), hence so does the reported coupling factor, their product -/
theorem factors_in_unit_interval (p : ProbeP ℚ) (hE : 0 < p.maxEdiff) (hI : 0 < p.maxIntr) (e1 e2 i1 i2 ie : ℚ) :
    (0 ≤ energyFactor p e1 e2 ∧ energyFactor p e1 e2 ≤ 1) ∧ (0 ≤ pkaFactor p i1 i2 ∧ pkaFactor p i1 i2 ≤ 1) ∧
    (0 ≤ interFactor p ie ∧ interFactor p ie ≤ 1) := by
  refine ⟨?_, ?_, ?_⟩
  · unfold energyFactor; simp only [Nat.cast_zero, Nat.cast_one]
    exact quad_factor_range _ _ hE (pyAbs_nonneg _)
  · unfold pkaFactor; simp only [Nat.cast_zero, Nat.cast_one]
    exact quad_factor_range _ _ hI (pyAbs_nonneg _)
  · unfold interFactor; simp only [Nat.cast_zero, Nat.cast_one]
    split
    · rename_i h
      have hx : 0 ≤ pyAbs ie - p.minInter := sub_nonneg.mpr h
      have hden : 0 < 1 + pyAbs ie - p.minInter := by linarith
      exact ⟨div_nonneg hx hden.le, (div_le_one₀ hden).mpr (by linarith)⟩
    · exact ⟨le_refl _, zero_le_one⟩

def CouplingSymm (s : Coupling) : Prop := ∀ a b, b ∈ s a ↔ a ∈ s b

theorem mem_appendIfNew (s : Coupling) (a x k y : String) : y ∈ appendIfNew s a x k ↔ y ∈ s k ∨ (k = a ∧ y = x) := by
  unfold appendIfNew
  by_cases hk : k = a
  · subst hk
    rw [if_pos rfl]
    split
    · next hx => exact Iff.symm (or_iff_left_of_imp fun e => e.2 ▸ hx)
    · simp
  · simp [hk]

/-- `couple_non_covalently` adds exactly the two mutual entries -/
theorem mem_couple (s : Coupling) (a b k y : String) : y ∈ couple s a b k ↔ y ∈ s k ∨ (k = a ∧ y = b) ∨ (k = b ∧ y = a) := by
  unfold couple; rw [mem_appendIfNew, mem_appendIfNew, or_assoc]

theorem couple_symm (s : Coupling) (a b : String) (h : CouplingSymm s) : CouplingSymm (couple s a b) :=
  symm_add_pair (R := fun i j => j ∈ s i) a b h (mem_couple s a b)

/-- **Coupling is symmetric after any sequence of `couple_non_covalently` calls.** -/
theorem coupling_symmetric (ops : List (String × String)) :
    CouplingSymm (ops.foldl (fun s p => couple s p.1 p.2) (fun _ => [])) :=
  List.foldlRecOn (motive := CouplingSymm) ops _ (fun _ _ => by simp) fun s h p _ => couple_symm s p.1 p.2 h

/-- the determinant row of a group carries `*` iff its coupled list is non-empty -/
def starred {α : Type} (g : GRec α) : Bool := !g.coupled.isEmpty
theorem star_iff {α : Type} (g : GRec α) : starred g = true ↔ g.coupled ≠ [] := by
  unfold starred; cases g.coupled <;> simp

end Propka.Dets
