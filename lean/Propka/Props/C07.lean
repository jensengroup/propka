import Propka.Proofs.Pdb
/-! # C07 — content the model does not use has no effect on any result

Theorems about the concrete line parser (`get_atom_lines_from_pdb` + `Atom.set_properties`), the
only place where the text of the file is read. -/
namespace Propka.Pdb
open Propka.Py

/-- a line that the parser passes over: neither ATOM/HETATM/MODEL/TER, or an ATOM/HETATM record of a
    residue configured as ignorable (water etc.) that is long enough for the alternate-location test `line[16]`, which comes
    first and raises on a shorter line -/
def unused (o : Opts) (l : Str) : Bool :=
  (kindOf l == .other) || (isAtomLine l && decide (16 < l.length) && o.ignore.contains (str (slice l 17 20)))

theorem stepLine_unused (o : Opts) (s : PState) (l : Str) (h : unused o l = true) : stepLine o s l = pure (s, none) := by
  unfold unused at h
  simp only [Bool.or_eq_true, Bool.and_eq_true, beq_iff_eq, decide_eq_true_eq] at h
  rcases h with hk | ⟨⟨ha, hlen⟩, hign⟩
  · refine stepLine_passed o s l ?_ (by simp [passed_classify, hk])
    rw [lineCheck_nonatom o l (by simp [isAtomLine, hk]), hk]; rfl
  · exact stepLine_passed o s l (lineCheck_atom o l ha hlen (.inl hign)) (by rw [passed_classify, ha, isSkipped, hign]; simp)

/-- **Water and the other ignorable residues, and every record that is not ATOM/HETATM/MODEL/TER, can
    be inserted or removed freely**: the parser's output (all atom records with their fields,
    conformation names and `N+`/`C-` tags) is that of the file without them. -/
theorem unused_records_have_no_effect (o : Opts) (lines : List Str) :
    parse o lines = parse o (lines.filter (fun l => !unused o l)) :=
  parseFrom_filter o o (unused o) lines (fun l _ h s => stepLine_unused o s l h) (fun _ _ _ _ => rfl) _

/-- inside a chain (the N-terminal residue has been fixed and no terminal oxygen has been seen since)
    an ATOM record that is not a terminal oxygen (a hydrogen record in particular) leaves the bookkeeping untouched -/
theorem atom_inside_chain_keeps_state (o : Opts) (k : Str) (old : Option Str) (l : Str)
    (hk : (classify o l).kind = .atom) (ho : (classify o l).isOxt = false) :
    (step (⟨.key k, old⟩ : St Str) (classify o l)).1 = ⟨.key k, old⟩ := by
  unfold step
  simp only [hk]
  by_cases hs : (classify o l).skip = true
  · simp [hs]
  · simp [hs, ho]

/-- the fields of an atom record that anything downstream reads -/
def usedFields (a : AtomRec) : String × String × String × String × Int × String × String × String × String × Int × Int × Int × Nat × Nat × Nat :=
  (a.conf, a.name, a.resName, a.chain, a.resNum, a.icode, a.typ, a.element, a.terminal, a.xm, a.ym, a.zm, a.xd, a.yd, a.zd)

/-- **Serial number, occupancy, B-factor, element and charge columns do not reach the results**: two
    lines that agree on the record type (columns 1-6), the atom name, residue name, chain, number,
    insertion code and the three coordinates (columns 13-16, 18-54) and are given one conformation name give atom records
    with the same used fields, whatever columns 7-11 hold (as long as they decode) and whatever
    follows column 54.  The element is inferred from columns 13-14. -/
theorem columns_have_no_effect (l1 l2 : Str) (conf term : String) (a1 a2 : AtomRec)
    (h0 : slice l1 0 6 = slice l2 0 6) (hname : slice l1 12 16 = slice l2 12 16) (hel : slice l1 12 14 = slice l2 12 14)
    (hres : slice l1 17 20 = slice l2 17 20) (hch : slice l1 21 22 = slice l2 21 22) (hnum : slice l1 22 26 = slice l2 22 26)
    (hic : slice l1 26 27 = slice l2 26 27) (hx : slice l1 30 38 = slice l2 30 38) (hy : slice l1 38 46 = slice l2 38 46)
    (hz : slice l1 46 54 = slice l2 46 54)
    (r1 : mkAtom l1 conf term = .ok a1) (r2 : mkAtom l2 conf term = .ok a2) : usedFields a1 = usedFields a2 := by
  unfold mkAtom at r1 r2
  rw [h0, hname, hel, hres, hch, hnum, hic, hx, hy, hz] at r1
  cases hs1 : H36.decode (slice l1 6 11) with
  | valueError => rw [hs1] at r1; cases r1
  | ok n1 =>
    cases hs2 : H36.decode (slice l2 6 11) with
    | valueError => rw [hs2] at r2; cases r2
    | ok n2 =>
      rw [hs1] at r1; rw [hs2] at r2
      simp only [mkCoreS_stored _ _ _ _ _ _ _ _ _ _ conf] at r1 r2
      cases h : mkCoreS _ _ _ _ _ _ _ _ _ _ "" "" 0 "" "" with
      | error e => rw [h] at r1; cases r1
      | ok a => rw [h] at r1 r2; cases r1; cases r2; rfl

end Propka.Pdb
