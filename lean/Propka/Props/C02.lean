import Propka.Proofs.Dets
import Propka.Proofs.Scoring
import Propka.Proofs.RealTrig
/-! # C02 — reported pKa = model pKa + the contributions listed for it; the file renders the same numbers -/
namespace Propka.Dets

/-- the identity of the property for one group record (disulfide-bridged cysteines, fixed at 99.99, excepted) -/
def Consistent (fixed : ℚ) (g : GRec ℚ) : Prop :=
  if g.bridged then g.pka = fixed else g.pka = g.model + g.evol + g.eloc + vsum g.sc + vsum g.bb + vsum g.cb

/-- the identity of the property says that the record is up to date -/
theorem consistent_iff (fixed : ℚ) (g : GRec ℚ) : Consistent fixed g ↔ UpToDate fixed g := by
  unfold Consistent UpToDate; rw [calculateTotal_eq]; split <;> exact eq_comm

/-- **`calculate_total_pka` establishes the identity**, whatever the determinant lists hold. -/
theorem total_consistent (fixed : ℚ) (g : GRec ℚ) : Consistent fixed (calculateTotal fixed g) :=
  (consistent_iff ..).mpr (total_uptodate ..)

/-- any mutation of the determinant lists (adding, removing penalised partners, sharing, setting)
    that is followed by the recalculation leaves the group consistent -/
theorem mutate_then_total (fixed : ℚ) (f : GRec ℚ → GRec ℚ) (g : GRec ℚ) : Consistent fixed (calculateTotal fixed (f g)) :=
  total_consistent fixed (f g)

theorem remove_then_total (fixed : ℚ) (labels : List String) (g : GRec ℚ) :
    Consistent fixed (calculateTotal fixed (removeDeterminants labels g)) := total_consistent fixed _

/-- **Swapping interactions keeps both groups consistent** (each swap ends with both recalculations). -/
theorem swap_consistent (fixed : ℚ) (g1 g2 : GRec ℚ) :
    Consistent fixed (swap fixed g1 g2).1 ∧ Consistent fixed (swap fixed g1 g2).2 :=
  ⟨total_consistent .., total_consistent ..⟩

/-- **The average is consistent**: averaging the records of the conformations in which a group exists
    (each consistent and not bridged, same model pKa) gives `pKa = model + desolvation terms + Σ determinants` again. -/
theorem average_consistent (fixed m : ℚ) (found : List (GRec ℚ)) (hne : found ≠ [])
    (hc : ∀ g ∈ found, Consistent fixed g ∧ g.model = m ∧ g.bridged = false) :
    (average 0 found).pka = m + (average 0 found).evol + (average 0 found).eloc
      + vsum (average 0 found).sc + vsum (average 0 found).bb + vsum (average 0 found).cb := by
  -- read off what the pKa has beyond the terms listed for it: the model pKa in every record, hence in their mean
  have h := average_reading (fun a => a.pka - (a.evol + a.eloc + vsum a.sc + vsum a.bb + vsum a.cb))
    (fun g => g.pka - (g.evol + g.eloc + vsum g.sc + vsum g.bb + vsum g.cb)) (by simp [vsum])
    (fun a g => by simp only [iadd, vsum_eq_wsum, wsum_foldl_addDet]; ring)
    (fun a n => by simp only [divAcc, vsum_eq_wsum, wsum_scale]; ring) found
  have hm : ∀ g ∈ found, g.pka - (g.evol + g.eloc + vsum g.sc + vsum g.bb + vsum g.cb) = m := by
    intro g hg
    obtain ⟨h1, h2, h3⟩ := hc g hg
    rw [Consistent, h3, if_neg Bool.false_ne_true] at h1
    rw [h1, h2]; ring
  have hn : (found.length : ℚ) ≠ 0 := Nat.cast_ne_zero.mpr (mt List.length_eq_zero_iff.mp hne)
  rw [List.map_congr_left hm, List.map_const', List.sum_replicate, nsmul_eq_mul, mul_div_cancel_left₀ _ hn] at h
  linarith

/-- dividing by more conformations than the group was found in (what the unrepaired averaging did)
    breaks the identity: one record with pKa 4 = model 4, divided by 2 -/
example : let a := divAcc ([⟨"X", 4, 0, 0, [], [], [], 4, false, []⟩].foldl iadd (⟨0, 0, 0, [], [], []⟩ : Acc ℚ)) 2
    a.pka ≠ 4 + a.evol + a.eloc + vsum a.sc + vsum a.bb + vsum a.cb := by
  simp [divAcc, iadd, vsum, scaleDets]; norm_num

/-- **The printed determinant rows are exactly the group's determinants**: over the
    `max(1, #sidechain, #backbone, #coulomb)` lines of a group's block every determinant of each
    kind appears exactly once, in order, and the other slots hold the filler. -/
theorem rows_exact {β : Type} (sc bb cb : List β) :
    (rowsOf sc bb cb).filterMap (·.1) = sc ∧ (rowsOf sc bb cb).filterMap (·.2.1) = bb ∧
    (rowsOf sc bb cb).filterMap (·.2.2) = cb ∧ (rowsOf sc bb cb).length = max 1 (max sc.length (max bb.length cb.length)) := by
  unfold rowsOf
  simp only [List.filterMap_map, List.length_map, List.length_range, and_true]
  exact ⟨getElem?_range_filterMap sc _ (by omega), getElem?_range_filterMap bb _ (by omega), getElem?_range_filterMap cb _ (by omega)⟩

end Propka.Dets

/-! ## the whole of `calculate_pka` (the scoring model, `Model/Scoring.lean`)

`score` is the composition of every phase of `ConformationContainer.calculate_pka` - desolvation, backbone and ion
determinants, backbone reorganisation, the pair loop with the non-iterative rules and the iterative scheme, the first
totals, the coupling penalties, the removal of determinants towards penalised groups and the second totals.  Whatever the
structure, the parameters and the switches, the pKa it leaves on a group is `calculate_total_pka` of exactly the
desolvation terms and determinant lists it leaves on that group. -/
namespace Propka.Scoring

/-- **Pipeline consistency, for every scalar type (in particular for the `Float` instance that is compared with the code bit
    for bit).** -/
theorem pipeline_consistent {α : Type} [Add α] [Sub α] [Mul α] [Div α] [Neg α] [NatCast α] [LT α] [LE α]
    [DecidableLT α] [DecidableLE α] [Max α] [Min α] [BEq α] [Inhabited α] [Trig α]
    (p : SP α) (env : Env α) (atoms : Tab AtomT) (groups : Tab (GroupT α)) (g : Nat) (hg : g < groups.n) :
    ∃ o, (score p env atoms groups)[g]? = some o ∧
      o.pka = totalPka p (gget groups g) o.evol o.eloc o.sc o.bb o.cb :=
  ⟨_, score_get p env atoms groups g hg, finish_total _ _ _ _ _ _⟩

theorem dsum_eq (z : ℝ) (ds : List (Det ℝ)) : dsum z ds = z + (ds.map (·.value)).sum :=
  foldl_additive id _ (fun _ _ => rfl) ds z

/-- **Over the reals: reported pKa = model pKa + the two desolvation terms + the sum of all listed determinants**
    (a disulfide-bridged cysteine is fixed at the configured value instead). -/
theorem pipeline_sum_identity (p : SP ℝ) (env : Env ℝ) (atoms : Tab AtomT) (groups : Tab (GroupT ℝ)) (g : Nat) (hg : g < groups.n) :
    ∃ o, (score p env atoms groups)[g]? = some o ∧
      (if (gget groups g).bridged then o.pka = p.fixed
       else o.pka = (gget groups g).model + o.evol + o.eloc + (o.sc.map (·.value)).sum + (o.bb.map (·.value)).sum + (o.cb.map (·.value)).sum) := by
  obtain ⟨o, ho, hp⟩ := pipeline_consistent p env atoms groups g hg
  refine ⟨o, ho, ?_⟩
  rw [hp]; unfold totalPka
  split
  · rfl
  · rw [dsum_eq, dsum_eq, dsum_eq]

/-- not vacuous: a two-group table gives two records -/
example (p : SP ℝ) (env : Env ℝ) (atoms : Tab AtomT) (f : Nat → GroupT ℝ) : (score p env atoms ⟨2, f⟩).length = 2 := score_length _ _ _ _

end Propka.Scoring
