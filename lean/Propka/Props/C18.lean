import Propka.Proofs.Params
import Propka.Gen.Cfg
import Mathlib.Analysis.Real.Sqrt
/-! # C18 — parameter tables are symmetric, complete and self-consistent

First part: theorems for *any* parameter file (any sequence of lines, any declared field kinds).
Second part: obligations on the shipped `propka.cfg` as the real `Parameters` object holds it
(`Propka.Gen.Cfg`, regenerated from `/repo` on every run) and on the group classes the classifier
can create (introspected from `propka/group.py`). -/
namespace Propka.Params

/-- **Both look-ups are symmetric after any parameter file**: for every list of lines that
    `parse_line` accepts, `interaction_matrix.get_value(a,b) = get_value(b,a)` and
    `sidechain_cutoffs.get_value(a,b) = get_value(b,a)`. -/
theorem file_lookups_symm {ν : Type} [HalfPow ν] [NatCast ν] (num isInt : String → Option ν)
    (kinds : List (String × String)) (sq : List String) (lines : List (List Char)) (st : PState ν)
    (h : parseFile num isInt kinds sq lines = .ok st) (a b : String) :
    st.im.get a b = st.im.get b a ∧ st.pm.get a b = st.pm.get b a := by
  have := foldlM_ok_inv (fun st : PState ν => Symm st.im.tbl ∧ Symm st.pm.tbl) _
    (fun s l s' => parseLine_symm num isInt kinds sq s s' l) lines _ st ⟨fun _ _ => rfl, fun _ _ => rfl⟩ h
  exact ⟨this.1 a b, st.pm.get_symm this.2 a b⟩

/-- **InteractionMatrix alone**: any sequence of successful `add` calls leaves `get_value` symmetric. -/
theorem imatrix_symm (rows : List (List String)) (m : IMat)
    (h : rows.foldlM (fun m w => m.add w) IMat.empty = .ok m) (a b : String) : m.get a b = m.get b a :=
  foldlM_ok_inv (fun m : IMat => Symm m.tbl) _ (fun m w m' => IMat.add_symm m m' w) rows _ m (fun _ _ => rfl) h a b

/-- **PairwiseMatrix alone**: symmetric after any operation sequence. -/
theorem pmatrix_symm {β : Type} (ops : List (POp β)) (d : β) (a b : String) :
    (ops.foldl PMat.apply ⟨fun _ _ => none, d⟩).get a b = (ops.foldl PMat.apply ⟨fun _ _ => none, d⟩).get b a :=
  PMat.get_symm _ (List.foldlRecOn ops _ (fun _ _ => rfl) fun m hm op _ => PMat.apply_symm m op hm) a b

/-- **Fallback to the declared default**: a pair that no entry mentions (in either order) yields the
    default in force at look-up time — wherever the `default` line stands in the file. -/
theorem pmatrix_default {β : Type} (ops : List (POp β)) (d : β) (a b : String)
    (h : ∀ op ∈ ops, mentions a b op = false) :
    (ops.foldl PMat.apply ⟨fun _ _ => none, d⟩).get a b = (ops.foldl PMat.apply ⟨fun _ _ => none, d⟩).default := by
  have H : (ops.foldl PMat.apply ⟨fun _ _ => none, d⟩).tbl a b = none :=
    List.foldlRecOn (motive := fun m => m.tbl a b = none) ops _ rfl
      fun m hm op hop => PMat.apply_none m op a b hm (h op hop)
  unfold PMat.get; rw [H]; rfl

/-- an entry is read back, in both orders, as soon as it is applied (so a later entry for the same pair wins) -/
theorem pmatrix_last_wins {β : Type} (m : PMat β) (g1 g2 : String) (v : β) :
    (m.apply (.pair g1 g2 v)).get g1 g2 = v ∧ (m.apply (.pair g1 g2 v)).get g2 g1 = v := by
  simp [PMat.apply, PMat.get, set_mirror]

/-- **Squared cut-offs**: whatever was set through either spelling, in any order, reading
    `x_squared` gives the square of what reading `x` gives. -/
theorem squared_is_square {ν : Type} [Mul ν] (sq : List String) (s : Scalars ν) (name : String)
    (hs : sq.contains name = true) (hp : sq.contains (unsquare name) = false) :
    s.getAttr sq name = (s.getAttr sq (unsquare name)).map (fun x => x * x) := by
  have hs' : name ∈ sq := List.contains_iff_mem.mp hs
  have hp' : unsquare name ∉ sq := by simpa using hp
  simp [Scalars.getAttr, hs', hp']

noncomputable instance : HalfPow ℝ := ⟨Real.sqrt⟩

/-- setting the squared spelling to a non-negative `v` and reading it back returns `v` (over ℝ) -/
theorem squared_roundtrip (sq : List String) (s : Scalars ℝ) (name : String) (v : ℝ) (hv : 0 ≤ v)
    (hs : sq.contains name = true) :
    (Scalars.setAttr sq s name v).getAttr sq name = some v := by
  have hs' : name ∈ sq := List.contains_iff_mem.mp hs
  simp [Scalars.getAttr, Scalars.setAttr, hs', Scalars.setPlain, Scalars.getPlain, HalfPow.halfPow, Real.mul_self_sqrt hv]

/-- a comment line (first character `#`) is a no-op -/
theorem comment_noop {ν : Type} [HalfPow ν] (num isInt : String → Option ν) (kinds : List (String × String))
    (sq : List String) (st : PState ν) (rest : List Char) :
    parseLine num isInt kinds sq st ('#' :: rest) = .ok st := by
  simp [parseLine, stripComment, pySplit, pySplit.go]

open Propka.Gen.Cfg

def imGet (i j : Nat) : Char := (imMat.getD i []).getD j '?'
def n : Nat := imKeys.length

/-- the shipped interaction matrix is symmetric -/
theorem inst_matrix_symm : ∀ i < n, ∀ j < n, imGet i j = imGet j i := by decide +kernel
/-- **Completeness**: every group type that reaches the pair loop is a key of the matrix, and every
    pair of such types has an interaction type `I`, `N` or `-`. -/
theorem inst_matrix_complete : ∀ i ∈ pairLoopIdx, ∀ j ∈ pairLoopIdx, i < n ∧ imGet i j ∈ ['I', 'N', '-'] := by
  decide +kernel
/-- the index table is the position of each type in the key list (ties `pairLoopIdx` to `pairLoopTypes`) -/
theorem inst_idx_correct : pairLoopIdx = pairLoopTypes.map (fun t => (imKeys.idxOf? t).getD 9999) := by decide +kernel

def lookupI (d : List (String × Int)) (k : String) : Option Int := (d.find? (fun kv => kv.1 == k)).map (·.2)

/-- every creatable group kind with a model pKa is written out exactly once and has a non-zero charge -/
theorem inst_writeout_complete : ∀ kv ∈ titratableKinds,
    f_write_out_order.count kv.1 = 1 ∧ (lookupI f_model_pkas kv.1).isSome ∧
    (∃ q, lookupI f_charge kv.2 = some q ∧ q ≠ 0) := by decide +kernel
/-- conversely, every entry of `write_out_order` that a reported group can carry has a model pKa
    (`SER` is listed but no group kind with residue type `SER` can be titratable) -/
theorem inst_writeout_have_pka : ∀ r ∈ f_write_out_order,
    (lookupI f_model_pkas r).isSome ∨ r ∉ titratableKinds.map (·.1) := by decide +kernel
theorem inst_writeout_nodup : f_write_out_order.Nodup := by decide +kernel

/-- inner cut-offs are smaller than outer ones: the default, every pair entry, both backbone tables, Coulomb -/
theorem inst_cutoffs_ordered :
    scDefault.1 < scDefault.2 ∧ (∀ e ∈ scPairs, e.2.2.1 < e.2.2.2) ∧
    (∀ e ∈ f_backbone_NH_hydrogen_bond, e.2.getD 1 0 < e.2.getD 2 0) ∧
    (∀ e ∈ f_backbone_CO_hydrogen_bond, e.2.getD 1 0 < e.2.getD 2 0) ∧
    f_coulomb_cutoff1 < f_coulomb_cutoff2 ∧ 0 < f_coulomb_cutoff1 := by decide +kernel

/-- the shipped pair table is stored both ways round with equal values -/
theorem inst_pairs_symm : ∀ e ∈ scPairs, (e.2.1, e.1, e.2.2) ∈ scPairs := by decide +kernel

/-! ### Non-vacuity -/
example : (IMat.empty.add ["A", "I"]).toOption.isSome ∧ (IMat.empty.add ["A"]).toOption.isNone := by decide
example : mentions (β := Nat) "A" "B" (.pair "B" "A" 1) = true ∧ mentions (β := Nat) "A" "B" (.pair "B" "C" 1) = false := by decide

end Propka.Params
