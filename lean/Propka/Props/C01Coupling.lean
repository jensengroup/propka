import Propka.Model.Coupling
import Propka.Model.Setup
import Propka.Gen.Cfg
import Propka.Proofs.Basics
import Mathlib.Tactic.NormNum
/-! # C01, continued - covalently coupled systems: one group of the system is left out of the printed tables

By design for the protonation sites of one ligand; but protein atoms all carry the empty SYBYL type, so the amino group of
an N-terminal Asp / His / Cys and that residue's own side chain (three bonds apart) also form such a system - finding D20. -/
namespace Propka.Coupling
/-- **Known finding D20, decided**: the amino group and the side chain of an N-terminal aspartate are within three bonds of
    each other and carry the same (empty) SYBYL type, so they form a "covalently coupled system"; the amino group has the
    higher pKa and is a base, the aspartate is penalised and missing from the summary. -/
theorem nterm_asp_dropped :
    summaryRows ([⟨"N+    7 I", 1, 756/100⟩, ⟨"ASP   7 I", -1, 321/100⟩] : List (CG ℚ)) = ["N+    7 I"] := by decide +kernel

theorem nterm_cys_dropped :
    summaryRows ([⟨"N+   42 E", 1, 794/100⟩, ⟨"CYS  42 E", -1, 903/100⟩] : List (CG ℚ)) = ["N+   42 E"] := by decide +kernel

/-- whatever the values, a system of two groups with different labels loses exactly one row -/
theorem pair_loses_one (a b : CG ℚ) (h : a.label ≠ b.label) : (summaryRows [a, b]).length = 1 := by
  unfold summaryRows penalised argmax
  simp only [List.foldl_cons, List.foldl_nil, Nat.cast_zero]
  -- `argmax` picks the group with the higher pKa; the penalised one is that group or, if it is an acid, the other; the filter
  -- drops exactly the penalised label
  by_cases hab : a.pka < b.pka
  · simp only [hab, if_true]
    by_cases hq : b.q < (0:ℚ)
    · simp [hq, List.filter, h]
    · simp [hq, List.filter, h, Ne.symm h]
  · simp only [hab, if_false]
    by_cases hq : a.q < (0:ℚ)
    · simp [hq, List.filter, Ne.symm h]
    · simp [hq, List.filter, h, Ne.symm h]
end Propka.Coupling

namespace Propka.Setup

/-- one half of `couple_covalently`: `h` is appended to the list of `g` unless it is there -/
def addTo (cov : Array (List Nat)) (g h : Nat) : Array (List Nat) :=
  if (cov.getD g []).contains h then cov else cov.setIfInBounds g (cov.getD g [] ++ [h])

theorem couple_eq (cov : Array (List Nat)) (g h : Nat) : couple cov g h = addTo (addTo cov g h) h g := rfl

theorem addTo_size (cov : Array (List Nat)) (g h : Nat) : (addTo cov g h).size = cov.size := by
  unfold addTo; split
  · rfl
  · exact Array.size_setIfInBounds

theorem mem_addTo (cov : Array (List Nat)) (g h : Nat) (hg : g < cov.size) (i j : Nat) :
    j ∈ (addTo cov g h).getD i [] ↔ j ∈ cov.getD i [] ∨ (i = g ∧ j = h) := by
  unfold addTo
  by_cases hc : (cov.getD g []).contains h = true
  · rw [if_pos hc]
    exact Iff.symm (or_iff_left_of_imp fun e => e.1 ▸ e.2 ▸ List.contains_iff_mem.mp hc)
  · rw [if_neg hc, getD_setIfInBounds _ _ _ _ _ hg]
    by_cases hi : i = g
    · subst hi; simp only [if_true, List.mem_append, List.mem_singleton, true_and]
    · simp only [hi, if_false, false_and, or_false]

/-- **`couple_covalently` adds exactly the two mutual entries** -/
theorem mem_couple (cov : Array (List Nat)) (g h : Nat) (hg : g < cov.size) (hh : h < cov.size) (i j : Nat) :
    j ∈ (couple cov g h).getD i [] ↔ j ∈ cov.getD i [] ∨ (i = g ∧ j = h) ∨ (i = h ∧ j = g) := by
  rw [couple_eq, mem_addTo _ _ _ (by rw [addTo_size]; exact hh), mem_addTo _ _ _ hg, or_assoc]

/-- coupling lists are symmetric -/
def Sym (cov : Array (List Nat)) : Prop := ∀ i j, j ∈ cov.getD i [] ↔ i ∈ cov.getD j []

theorem couple_sym (cov : Array (List Nat)) (g h : Nat) (hg : g < cov.size) (hh : h < cov.size) (hs : Sym cov) : Sym (couple cov g h) :=
  symm_add_pair (R := fun i j => j ∈ cov.getD i []) g h hs (mem_couple cov g h hg hh)

theorem couple_size (cov : Array (List Nat)) (g h : Nat) : (couple cov g h).size = cov.size := by
  rw [couple_eq, addTo_size, addTo_size]

/-- symmetric coupling lists of `n` groups: what every loop that couples pairs of groups below `n` keeps -/
def SymN (n : Nat) (cov : Array (List Nat)) : Prop := cov.size = n ∧ Sym cov

theorem SymN.replicate (n : Nat) : SymN n (Array.replicate n []) := by
  have h : ∀ i, (Array.replicate n ([] : List Nat)).getD i [] = [] := fun i => by
    rw [Array.getD_eq_getD_getElem?, Array.getElem?_replicate]; split <;> rfl
  exact ⟨Array.size_replicate, fun i j => by rw [h, h]; exact ⟨nofun, nofun⟩⟩

theorem SymN.couple {n g h : Nat} {cov : Array (List Nat)} (hc : SymN n cov) (hg : g < n) (hh : h < n) : SymN n (couple cov g h) :=
  ⟨by rw [couple_size, hc.1], couple_sym cov g h (hc.1 ▸ hg) (hc.1 ▸ hh) hc.2⟩

theorem forall_mem_ounion {P : Nat → Prop} {p q : List Nat} (hp : ∀ y ∈ p, P y) (hq : ∀ y ∈ q, P y) : ∀ y ∈ ounion p q, P y := by
  refine List.foldlRecOn (motive := fun (r : List Nat) => ∀ y ∈ r, P y) q _ hp ?_
  intro acc hacc z hz
  split
  · exact hacc
  · exact List.forall_mem_append.mpr ⟨hacc, fun y hy => List.mem_singleton.mp hy ▸ hq z hz⟩

theorem bondedTitr_grp (atoms : Scoring.Tab Scoring.AtomT) (grpOf : Nat → Option Nat) (titr : Nat → Bool) (maxB orig : Nat) :
    ∀ (fuel a nb : Nat), ∀ x ∈ bondedTitr atoms grpOf titr maxB orig fuel a nb, ∃ b, grpOf b = some x
  | 0, _, _ => nofun
  | fuel+1, a, nb => by
    -- whatever enters the result, here or in the recursive call, enters together with an atom whose group it is
    let M : List Nat → Prop := fun r => ∀ y ∈ r, ∃ b, grpOf b = some y
    unfold bondedTitr
    refine List.foldlRecOn (motive := M) _ _ nofun fun res hres b _ => ?_
    refine iteInduction (motive := M) (fun _ => hres) fun _ => ?_
    have h1 : M (match grpOf b with
        | some g => if titr g && decide (nb ≤ maxB) then ounion res [g] else res
        | none => res) := by
      split
      · next g hg =>
        exact iteInduction (motive := M) (fun _ => forall_mem_ounion hres fun y hy => ⟨b, List.mem_singleton.mp hy ▸ hg⟩) fun _ => hres
      · exact hres
    exact iteInduction (motive := M) (fun _ => forall_mem_ounion h1 (bondedTitr_grp atoms grpOf titr maxB orig fuel b (nb + 1))) fun _ => h1

/-- **The covalent coupling lists are symmetric**: `h` is in the list of `g` exactly when `g` is in the list of `h`, whatever
    the bonds, the SYBYL types and the titratable flags are (provided every group the bond search returns is one of the `n` groups). -/
theorem covalentCoupling_sym (atoms : Scoring.Tab Scoring.AtomT) (n : Nat) (gatom : Nat → Nat) (grpOf : Nat → Option Nat) (titr : Nat → Bool)
    (sybyl : Nat → String) (maxB : Nat) (hin : ∀ a g, grpOf a = some g → g < n) :
    Sym (covalentCoupling atoms n gatom grpOf titr sybyl maxB) := by
  unfold covalentCoupling
  refine (List.foldlRecOn (motive := SymN n) _ _ (.replicate n) fun cov hcov g hg => ?_).2
  have hg : g < n := List.mem_range.mp (List.mem_filter.mp hg).1
  refine List.foldlRecOn (motive := SymN n) _ _ hcov fun cov hcov h hh => ?_
  have ⟨b, hb⟩ := bondedTitr_grp atoms grpOf titr maxB _ _ _ _ h hh
  exact iteInduction (fun _ => hcov) fun _ => iteInduction (fun _ => hcov.couple hg (hin b h hb)) fun _ => hcov
open Propka.Scoring

/-- **Every group class the ligand classifier can name is a class the set-up model knows and a class of `propka.group`**
    (the regenerated list of creatable classes), and has a residue type of its own there. -/
theorem ligand_classes_known :
    ∀ name ∈ ligandClassNames, (clsOf name).isSome = true ∧
      (Propka.Gen.Cfg.creatable.any fun c => c.1 == name && c.2.2 != "") = true := by decide +kernel

/-- What holds of every listed name - of OCOGroup, given that the atom has two bonded carboxylate oxygens - holds of the name the
    classifier gives: no other condition of its if-chains is looked at. -/
theorem ligandClass_cases (atoms : Tab AtomT) (sy : Nat → String) (a : Nat) {P : String → Prop}
    (S : ∀ x ∈ ligandClassNames,
      (x = "OCOGroup" → (((bondedEl atoms a "O").filter fun o => hasOco2 (sy o)).length == 2) = true) → P x)
    (c : String) (h : ligandClass atoms sy a = some c) : P c := by
  let Q : Option String → Prop := fun o => ∀ c, o = some c → P c
  have N : Q none := nofun
  have S : ∀ x ∈ ligandClassNames, (x = "OCOGroup" → _) → Q (some x) := fun x h1 h2 _ e => Option.some.inj e ▸ S x h1 h2
  -- `S` as one fact per name, in the order of the list
  simp only [ligandClassNames, List.forall_mem_cons, String.reduceEq, false_imp_iff, forall_const] at S
  obtain ⟨nar, nam, n30, n31, n32, n33, n1, np1, c2n, cg, oco, f, cl, op, oh, o3, o2, sh, -⟩ := S
  revert c
  show Q _
  unfold ligandClass
  split
  · exact iteInduction (fun _ => nar) fun _ => N
  · exact nam
  · exact iteInduction (fun _ => n30) fun _ => iteInduction (fun _ => n31) fun _ =>
      iteInduction (fun _ => n32) fun _ => iteInduction (fun _ => n33) fun _ => N
  · exact n1
  · unfold clsNpl3; split
    · exact iteInduction (fun _ => np1) fun _ => N
    · exact N
  · exact iteInduction (fun _ => c2n) fun _ => iteInduction (fun _ => cg) fun _ => iteInduction oco fun _ => N
  · exact f
  · exact cl
  · exact iteInduction (fun _ => iteInduction (fun _ => op) fun _ => oh) fun _ => o3
  · exact o2
  · exact iteInduction (fun _ => sh) fun _ => N
  · exact N

/-- whatever the atoms, bonds and SYBYL types: the classifier names one of those classes or none -/
theorem ligandClass_mem (atoms : Tab AtomT) (sy : Nat → String) (a : Nat) (c : String) (h : ligandClass atoms sy a = some c) :
    c ∈ ligandClassNames :=
  ligandClass_cases atoms sy a (fun _ h _ => h) c h

end Propka.Setup
