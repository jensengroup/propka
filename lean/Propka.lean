import Propka.Model.Scalar
import Propka.Model.Hybrid36
import Propka.Model.Rotation
import Propka.Proofs.Hybrid36
import Propka.Proofs.RealTrig
import Propka.Proofs.Rotation
import Propka.Props.C19
import Propka.Props.C20
import Propka.Model.Bonds
import Propka.Model.BondsDriver
import Propka.Proofs.Bonds
import Propka.Props.C11
import Propka.Model.PyStr
import Propka.Model.Params
import Propka.Model.ParamsDriver
import Propka.Proofs.Params
import Propka.Props.C18
import Propka.Model.Pdb
import Propka.Model.PdbDriver
import Propka.Proofs.Pdb
import Propka.Props.C13
import Propka.Model.Groups
import Propka.Model.GroupsDriver
import Propka.Proofs.Groups
import Propka.Props.C01
import Propka.Model.Hidden
import Propka.Model.HiddenDriver
import Propka.Props.C03
import Propka.Model.Profiles
import Propka.Model.ProfilesDriver
import Propka.Proofs.Profiles
import Propka.Props.C09
import Propka.Props.C10
import Propka.Proofs.ResList
import Propka.Props.C14
import Propka.Model.Dets
import Propka.Model.TopUp
import Propka.Model.DetsDriver
import Propka.Proofs.Fold
import Propka.Proofs.Basics
import Propka.Proofs.Dets
import Propka.Props.C15
import Propka.Props.C02
import Propka.Props.C08
import Propka.Model.Energy
import Propka.Model.Iterative
import Propka.Model.EnergyDriver
import Propka.Proofs.Iterative
import Propka.Proofs.Componentwise
import Propka.Props.C16
import Propka.Model.Protonate
import Propka.Proofs.Protonate
import Propka.Props.C17
import Propka.Model.PairLoop
import Propka.Props.C06
import Propka.Proofs.GridRotations
import Propka.Props.C04
import Propka.Props.C05
import Propka.Props.C07
import Propka.Props.C12
import Propka.Model.Angle
import Propka.Proofs.Angle
import Propka.Proofs.Equivariance
import Propka.Model.Coupling
import Propka.Props.C01Coupling
import Propka.Model.ResList
import Propka.Model.Scoring
import Propka.Model.ScoringDriver
import Propka.Model.Setup
import Propka.Model.SetupDriver
import Propka.Proofs.Scoring
import Propka.Model.Pipeline
import Propka.Model.PipelineDriver
import Propka.Model.Program
import Propka.Props.Pipeline
import Propka.Props.Program
import Propka.Model.Output
import Propka.Model.CoupleSearch
import Propka.Props.C15Search
import Propka.Props.PipelineTotal
import Propka.Props.C04Pipeline
import Propka.Props.ProgramScoring
